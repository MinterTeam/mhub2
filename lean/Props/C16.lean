/-
  C16 — Confirmations are attributable, unique and correctly queryable.

  About `Hub.confirm` (MsgSubmitTxConfirmation), `Hub.confirmations`
  (SignerSetTxConfirmations / BatchTxConfirmations), `Hub.unsignedSets` and `Hub.unsignedBatches`.
  A stored confirmation is a `SigRec` (store index of the outgoing tx, validator, signature) kept
  under the key `sigKey r = r.index ++ hexToBytes r.val`.
-/
import Mhub2.Step
import Mhub2.Generated.Facts
import Lemmas.Keys
namespace Mhub2.C16
open Mhub2

/-! ### When a confirmation is recorded -/

/-- A confirmation is recorded only for a known chain, by a signer that resolves to a bonded
    validator `v`, for an outgoing tx that exists, with the external address registered for `v`
    (non-zero), and only if `v` has not confirmed that tx before; the store then holds exactly one
    more record, `⟨index, v, sig⟩`; nothing else changes. -/
theorem confirm_recorded_only_if {h h' : Hub} {chain signer ext sig : String} {k : ConfKind}
    (hok : h.confirm chain signer k ext sig = .ok h') :
    h.hasChain chain = true ∧ k.nonce ≠ 0 ∧
    ∃ v, h.signerValidator chain signer = .ok v ∧ h.outgoingExists chain k = true ∧
      alGet (h.chain chain).valExt v = some ext ∧ ext ≠ zeroEth ∧
      ¬ (∃ r ∈ (h.chain chain).sigs, sigKey r = k.index chain ++ hexToBytes v) ∧
      h' = h.setChain chain { h.chain chain with
        sigs := insertByKey sigKey ⟨k.index chain, v, sig⟩ (h.chain chain).sigs } ∧
      (h'.chain chain).sigs.Perm (⟨k.index chain, v, sig⟩ :: (h.chain chain).sigs) ∧
      (∀ ch, ch ≠ chain → h'.chain ch = h.chain ch) := by
  obtain ⟨hn, hc, v, hv, ho, he, hz, hd, e⟩ := confirm_ok hok
  refine ⟨hc, hn, v, hv, ho, he, hz, ?_, e, ?_, fun ch hne => confirm_other_chain hok hne⟩
  · rintro ⟨r, hr, hk⟩; exact hd r hr hk
  · rw [e, chain_setChain]
    exact insertByKey_perm sigKey hd

theorem confirm_frame {h h' : Hub} {chain signer ext sig : String} {k : ConfKind}
    (hok : h.confirm chain signer k ext sig = .ok h') :
    (∃ l, h'.chain chain = { h.chain chain with sigs := l }) ∧
    h'.chains = h.chains ∧ h'.tokens = h.tokens ∧ h'.bal = h.bal ∧ h'.supply = h.supply ∧
    h'.status = h.status ∧ h'.feeRec = h.feeRec ∧ h'.staking = h.staking ∧ h'.params = h.params ∧
    h'.height = h.height ∧ h'.time = h.time := by
  obtain ⟨_, _, v, _, _, _, _, _, e⟩ := confirm_ok hok
  subst e
  exact ⟨⟨_, chain_setChain _ _ _⟩, rfl, rfl, rfl, rfl, rfl, rfl, rfl, rfl, rfl, rfl⟩

/-! ### At most one confirmation per (outgoing tx, validator) -/

theorem confirm_keeps_keys_distinct {h h' : Hub} {chain signer ext sig : String} {k : ConfKind}
    (hok : h.confirm chain signer k ext sig = .ok h')
    (hd : ∀ ch, DistinctKeys sigKey (h.chain ch).sigs) :
    ∀ ch, DistinctKeys sigKey (h'.chain ch).sigs := by
  obtain ⟨_, _, _, _, _, _, _, hfresh, e⟩ := confirm_ok hok
  rw [e]
  exact forall_chain_setChain (P := fun _ c => DistinctKeys sigKey c.sigs) ((hd chain).insert_fresh hfresh) hd

theorem one_per_validator_per_tx (h : Hub) (ms : List ConfMsg)
    (hd : ∀ ch, DistinctKeys sigKey (h.chain ch).sigs) :
    ∀ ch, DistinctKeys sigKey ((h.confirmMany ms).chain ch).sigs := by
  induction ms generalizing h with
  | nil => exact hd
  | cons m ms ih =>
    unfold Hub.confirmMany
    apply ih
    split
    · rename_i h' hok; exact confirm_keeps_keys_distinct hok hd
    · exact hd

/-- Distinct keys mean: one stored confirmation per (store index, validator bytes). -/
theorem one_record_per_key {l : List SigRec} (hd : DistinctKeys sigKey l) {r1 r2 : SigRec}
    (h1 : r1 ∈ l) (h2 : r2 ∈ l) (hi : r1.index = r2.index) (hv : r1.val = r2.val) : r1 = r2 :=
  KeysDistinct.eq_of_mem sigKey hd h1 h2 (by unfold sigKey; rw [hi, hv])

theorem keys_distinct_reachable (ops : List Op) (ch : String) :
    SortedBy sigKey ((runOps ops).chain ch).sigs ∧ DistinctKeys sigKey ((runOps ops).chain ch).sigs :=
  ⟨(sigsInv_reachable ops ch).sorted, (sigsInv_reachable ops ch).sorted.keysDistinct⟩

/-- A second confirmation of the same outgoing tx by the same validator — sent by the validator
    or by any of its orchestrators, with any signature — is rejected. -/
theorem second_confirm_fails {h h' : Hub} {chain s1 s2 e1 e2 g1 g2 v : String} {k : ConfKind}
    (hok : h.confirm chain s1 k e1 g1 = .ok h')
    (hv1 : h.signerValidator chain s1 = .ok v) (hv2 : h.signerValidator chain s2 = .ok v) :
    ∃ e, h'.confirm chain s2 k e2 g2 = .error e := by
  cases hc : h'.confirm chain s2 k e2 g2 with
  | error e => exact ⟨e, rfl⟩
  | ok h'' =>
    exfalso
    obtain ⟨_, _, v1, hr1, _, _, _, _, e⟩ := confirm_ok hok
    obtain ⟨_, _, v2, hr2, _, _, _, hfresh, _⟩ := confirm_ok hc
    rw [confirm_signerValidator hok, hv2] at hr2
    rw [hv1] at hr1
    injection hr1 with hr1
    injection hr2 with hr2
    subst hr1 hr2
    have hm : (⟨k.index chain, v, g1⟩ : SigRec) ∈ (h'.chain chain).sigs := by
      rw [e, chain_setChain]; exact mem_insertByKey _ _ _
    exact hfresh _ hm rfl

/-! ### The confirmations query -/

/-- The query returns, in store order, one pair per stored record whose key has the index of the
    outgoing tx as a byte prefix: the signature, and the external address registered for the
    validator whose address bytes are the rest of the key. -/
theorem confirmations_query_exact (h : Hub) (chain : String) (k : ConfKind) :
    h.confirmations chain k =
      ((h.chain chain).sigs.filter fun r => isPrefix (k.index chain) (r.index ++ hexToBytes r.val)).map
        fun r => ((alGet (h.chain chain).valExt
          (hexOfBytes ((r.index ++ hexToBytes r.val).drop (k.index chain).length))).getD zeroEth, r.sig) :=
  rfl

/-- When "has the index as a prefix" coincides with "is stored under that index" for the stored
    records, and validator addresses are canonical hex, the query returns exactly the
    confirmations of that outgoing tx with the signers' registered external addresses. -/
theorem confirmations_by_index {h : Hub} {chain : String} {k : ConfKind}
    (hpf : ∀ r ∈ (h.chain chain).sigs, isPrefix (k.index chain) (sigKey r) = true →
      r.index = k.index chain)
    (hhex : ∀ r ∈ (h.chain chain).sigs, hexOfBytes (hexToBytes r.val) = r.val) :
    h.confirmations chain k =
      ((h.chain chain).sigs.filter fun r => r.index == k.index chain).map
        fun r => ((alGet (h.chain chain).valExt r.val).getD zeroEth, r.sig) := by
  unfold Hub.confirmations
  simp only
  have hf : (h.chain chain).sigs.filter (fun r => isPrefix (k.index chain) (sigKey r)) =
      (h.chain chain).sigs.filter (fun r => r.index == k.index chain) := by
    apply List.filter_congr
    intro r hr
    rw [Bool.eq_iff_iff, beq_iff_eq]
    exact ⟨hpf r hr, fun e => by unfold sigKey; rw [e]; exact isPrefix_append _ _⟩
  rw [hf]
  apply List.map_congr_left
  intro r hr
  obtain ⟨hm, he⟩ := List.mem_filter.mp hr
  have : r.index = k.index chain := by simpa using he
  unfold sigKey
  rw [this, List.drop_left, hhex r hm]

/-- Signer-set indices have a fixed width: the index of set `n` is a prefix of a key stored under
    the index of set `n'` only if the indices are equal (so `n' = n` for `uint64` nonces), and never
    of a key stored under a batch index. -/
theorem sig_key_prefix_free_sets (chain : String) (n : Nat) (valBytes : Bytes) :
    (∀ n', isPrefix (setIndex chain n) (setIndex chain n' ++ valBytes) = true →
      setIndex chain n' = setIndex chain n ∧ (n < 2 ^ 64 → n' < 2 ^ 64 → n' = n)) ∧
    (∀ t n', isPrefix (setIndex chain n) (batchIndex chain t n' ++ valBytes) = false) := by
  refine ⟨?_, fun t n' => setIndex_not_prefix_batch chain t n n' valBytes⟩
  intro n' hp
  have := (setIndex_prefix_iff chain n n' valBytes).mp hp
  exact ⟨this.symm, fun h1 h2 => (setIndex_inj h1 h2 this).symm⟩

theorem other_set_not_included {chain : String} {n n' : Nat} (hn : n < 2 ^ 64) (hn' : n' < 2 ^ 64)
    (hne : n' ≠ n) (valBytes : Bytes) :
    isPrefix (setIndex chain n) (setIndex chain n' ++ valBytes) = false := by
  cases hp : isPrefix (setIndex chain n) (setIndex chain n' ++ valBytes) with
  | false => rfl
  | true => exact absurd (((sig_key_prefix_free_sets chain n valBytes).1 n' hp).2 hn hn') hne

/-- The signer-set query is exact whenever every stored record sits under a signer-set or batch
    index of the chain (an invariant of the reachable states, see below). -/
theorem confirmations_set_exact {h : Hub} {chain : String} (n : Nat)
    (hidx : ∀ r ∈ (h.chain chain).sigs, ∃ k : ConfKind, r.index = k.index chain)
    (hhex : ∀ r ∈ (h.chain chain).sigs, hexOfBytes (hexToBytes r.val) = r.val) :
    h.confirmations chain (.set n) =
      ((h.chain chain).sigs.filter fun r => r.index == setIndex chain n).map
        fun r => ((alGet (h.chain chain).valExt r.val).getD zeroEth, r.sig) := by
  refine confirmations_by_index (k := .set n) ?_ hhex
  intro r hr hp
  obtain ⟨k', hk'⟩ := hidx r hr
  unfold sigKey at hp
  rw [hk'] at hp ⊢
  cases k' with
  | set n' => exact ((sig_key_prefix_free_sets chain n _).1 n' hp).1
  | batch t n' =>
    rw [show (ConfKind.set n).index chain = setIndex chain n from rfl,
      show (ConfKind.batch t n').index chain = batchIndex chain t n' from rfl,
      setIndex_not_prefix_batch] at hp
    cases hp

theorem confirmations_set_exact_reachable (ops : List Op) (chain : String) (n : Nat)
    (hhex : ∀ r ∈ ((runOps ops).chain chain).sigs, hexOfBytes (hexToBytes r.val) = r.val) :
    (runOps ops).confirmations chain (.set n) =
      (((runOps ops).chain chain).sigs.filter fun r => r.index == setIndex chain n).map
        fun r => ((alGet ((runOps ops).chain chain).valExt r.val).getD zeroEth, r.sig) :=
  confirmations_set_exact n
    (fun r hr => by
      obtain ⟨k, _, hk⟩ := (sigsInv_reachable ops chain).index r hr
      exact ⟨k, hk⟩) hhex

/-- Batch indices contain the variable-width token id.  The batch query never includes a
    signer-set record, and is exact against batch records whose token id has the same byte length
    (e.g. all 42-character contract addresses) … -/
theorem sig_key_prefix_free_batches_partial (chain t : String) (n : Nat) (valBytes : Bytes) :
    (∀ n', isPrefix (batchIndex chain t n) (setIndex chain n' ++ valBytes) = false) ∧
    (∀ t' n', (strBytes t).length = (strBytes t').length →
      isPrefix (batchIndex chain t n) (batchIndex chain t' n' ++ valBytes) = true →
      batchIndex chain t' n' = batchIndex chain t n ∧ (n < 2 ^ 64 → n' < 2 ^ 64 → t' = t ∧ n' = n)) := by
  refine ⟨fun n' => batchIndex_not_prefix_set chain t n n' valBytes, ?_⟩
  intro t' n' hl hp
  have := (batchIndex_prefix_same_length valBytes hl).mp hp
  refine ⟨this.symm, fun h1 h2 => ?_⟩
  obtain ⟨a, b⟩ := batchIndex_inj h1 h2 hl this
  exact ⟨a.symm, b.symm⟩

/-- … and, for token ids of any widths, whenever token ids contain no zero byte and batch nonces
    are below 2^56 (the leading zero byte of the big-endian nonce then ends the token id). -/
theorem sig_key_prefix_free_batches_small_nonces {chain t t' : String} {n n' : Nat} (valBytes : Bytes)
    (ht : ∀ b ∈ strBytes t, b ≠ 0) (ht' : ∀ b ∈ strBytes t', b ≠ 0)
    (hn : n < 2 ^ 56) (hn' : n' < 2 ^ 56)
    (hp : isPrefix (batchIndex chain t n) (batchIndex chain t' n' ++ valBytes) = true) :
    t' = t ∧ n' = n := by
  obtain ⟨a, b⟩ := batchIndex_prefix_free valBytes ht ht' hn hn' hp
  exact ⟨a.symm, b.symm⟩

/-- Without such a restriction the batch query is NOT prefix-free: the index of
    batch ("12", 1) is a prefix of the key of a confirmation of batch ("1", 50·2^56) by a validator
    whose address starts with byte 0x01; that record would be returned by the query for
    ("12", 1), with the validator address read at the wrong offset.  (It needs a batch nonce of at
    least 2^56, which `lastBatchNonce + 1` does not reach in practice.) -/
theorem batch_prefix_collision :
    isPrefix (batchIndex "c" "12" 1)
      (batchIndex "c" "1" 3602879701896396800 ++ hexToBytes "0100000000000000000000000000000000000000") = true ∧
    batchIndex "c" "12" 1 ≠ batchIndex "c" "1" 3602879701896396800 := by
  decide +kernel

theorem confirmations_batch_exact {h : Hub} {chain t : String} {n : Nat}
    (ht : ∀ b ∈ strBytes t, b ≠ 0) (hn : n < 2 ^ 56)
    (hidx : ∀ r ∈ (h.chain chain).sigs, (∃ n', r.index = setIndex chain n') ∨
      (∃ t' n', r.index = batchIndex chain t' n' ∧ (∀ b ∈ strBytes t', b ≠ 0) ∧ n' < 2 ^ 56))
    (hhex : ∀ r ∈ (h.chain chain).sigs, hexOfBytes (hexToBytes r.val) = r.val) :
    h.confirmations chain (.batch t n) =
      ((h.chain chain).sigs.filter fun r => r.index == batchIndex chain t n).map
        fun r => ((alGet (h.chain chain).valExt r.val).getD zeroEth, r.sig) := by
  refine confirmations_by_index (k := .batch t n) ?_ hhex
  intro r hr hp
  unfold sigKey at hp
  show r.index = batchIndex chain t n
  rw [show (ConfKind.batch t n).index chain = batchIndex chain t n from rfl] at hp
  rcases hidx r hr with ⟨n', e⟩ | ⟨t', n', e, ht', hn'⟩
  · rw [e, batchIndex_not_prefix_set] at hp; cases hp
  · rw [e] at hp ⊢
    obtain ⟨a, b⟩ := sig_key_prefix_free_batches_small_nonces _ ht ht' hn hn' hp
    rw [a, b]

/-! ### The "unsigned" queries -/

/-- The signer sets a signer still has to sign: the signer resolves to a bonded validator `v`, and
    the result lists, newest first, the nonces of exactly the stored sets for which no non-empty
    signature of `v` is stored. -/
theorem unsigned_query_exact {h : Hub} {chain signer : String} {l : List Nat}
    (hok : h.unsignedSets chain signer = .ok l) :
    ∃ v, h.signerValidator chain signer = .ok v ∧
      l = ((h.chain chain).sets.reverse.filter fun s =>
            !((h.chain chain).sigs.any fun r =>
                sigKey r == setIndex chain s.nonce ++ hexToBytes v && r.sig != "")).map (·.nonce) ∧
      ∀ n, n ∈ l ↔ ∃ s ∈ (h.chain chain).sets, s.nonce = n ∧
        ¬ ∃ r ∈ (h.chain chain).sigs, sigKey r = setIndex chain n ++ hexToBytes v ∧ r.sig ≠ "" := by
  unfold Hub.unsignedSets at hok
  obtain ⟨v, hv, hok⟩ := bind_ok hok
  injection hok with hok
  refine ⟨v, hv, hok.symm, ?_⟩
  intro n
  rw [← hok]
  simp only [List.mem_map, List.mem_filter, List.mem_reverse, not_any_signed_iff]
  constructor
  · rintro ⟨s, ⟨hs, hno⟩, rfl⟩
    exact ⟨s, hs, rfl, hno⟩
  · rintro ⟨s, hs, rfl, hno⟩
    exact ⟨s, ⟨hs, hno⟩, rfl⟩

/-- For batches the result is sorted by batch nonce. -/
theorem unsigned_batches_query_exact {h : Hub} {chain signer : String} {l : List (String × Nat)}
    (hok : h.unsignedBatches chain signer = .ok l) :
    ∃ v, h.signerValidator chain signer = .ok v ∧
      l = (isort (fun (a b : Batch) => decide (a.nonce < b.nonce))
            ((h.chain chain).batches.reverse.filter fun b =>
              !((h.chain chain).sigs.any fun r =>
                  sigKey r == batchIndex chain b.extToken b.nonce ++ hexToBytes v && r.sig != ""))).map
          (fun b => (b.extToken, b.nonce)) ∧
      (l.map (·.2)).Pairwise (· ≤ ·) ∧
      ∀ t n, (t, n) ∈ l ↔ ∃ b ∈ (h.chain chain).batches, b.extToken = t ∧ b.nonce = n ∧
        ¬ ∃ r ∈ (h.chain chain).sigs, sigKey r = batchIndex chain t n ++ hexToBytes v ∧ r.sig ≠ "" := by
  unfold Hub.unsignedBatches at hok
  obtain ⟨v, hv, hok⟩ := bind_ok hok
  injection hok with hok
  refine ⟨v, hv, hok.symm, ?_, ?_⟩
  · rw [← hok, List.map_map, List.pairwise_map]
    refine (isort_sorted _ ?_ ?_ _).imp ?_
    · intro a b hab
      simp only [decide_eq_true_eq, decide_eq_false_iff_not] at hab ⊢
      omega
    · intro a b c h1 h2
      simp only [decide_eq_true_eq] at h1 h2 ⊢
      omega
    · intro a b hab
      simp only [decide_eq_false_iff_not] at hab
      show a.nonce ≤ b.nonce
      omega
  · intro t n
    rw [← hok]
    simp only [List.mem_map, mem_isort, List.mem_filter, List.mem_reverse, not_any_signed_iff, Prod.mk.injEq]
    constructor
    · rintro ⟨b, ⟨hb, hno⟩, rfl, rfl⟩
      exact ⟨b, hb, rfl, rfl, hno⟩
    · rintro ⟨b, hb, rfl, rfl, hno⟩
      exact ⟨b, ⟨hb, hno⟩, rfl, rfl⟩

/-! ### Bridge lemmas -/

theorem fact_confirm_conds : Generated.confirm_conds =
    "err != nil | err != nil | err != nil | otx == nil | ethAddress == (common.Address{}) | ethAddress != confirmation.GetSigner() | err != nil | k.getExternalSignature(ctx, types.ChainID(msg.ChainId), confirmation.GetStoreIndex(chainId), val) != nil" := rfl
theorem fact_query_SignerSetTxConfirmations_signer : Generated.query_SignerSetTxConfirmations_signer =
    "k.GetValidatorExternalAddress(ctx, chainId, val).Hex()" := rfl
theorem fact_query_BatchTxConfirmations_signer : Generated.query_BatchTxConfirmations_signer =
    "k.GetValidatorExternalAddress(ctx, chainId, val).Hex()" := rfl
theorem fact_query_UnsignedSignerSetTxs_conds : Generated.query_UnsignedSignerSetTxs_conds =
    "err != nil | len(sig) == 0 | !ok" := rfl
theorem fact_query_UnsignedBatchTxs_conds : Generated.query_UnsignedBatchTxs_conds =
    "err != nil | len(sig) == 0 | !ok" := rfl
theorem fact_key_MakeExternalSignatureKey : Generated.key_MakeExternalSignatureKey =
    "bytes.Join([][]byte{{ExternalSignatureKey}, chainId.Bytes(), storeIndex, validator.Bytes()}, []byte{})" := rfl
theorem fact_key_MakeSignerSetTxKey : Generated.key_MakeSignerSetTxKey =
    "bytes.Join([][]byte{{SignerSetTxPrefixByte}, chainId.Bytes(), sdk.Uint64ToBigEndian(nonce)}, []byte{})" := rfl
theorem fact_key_MakeOutgoingTxKey : Generated.key_MakeOutgoingTxKey =
    "bytes.Join([][]byte{{OutgoingTxKey}, chainId.Bytes(), storeIndex}, []byte{})" := rfl

/-! ### Non-vacuity -/

def exHub : Hub :=
  { chains := ["eth"], staking := [⟨"aa", 10, true⟩, ⟨"bb", 5, true⟩],
    cs := [("eth", { sets := [⟨1, 1, 1, []⟩, ⟨2, 1, 2, []⟩], latestSetNonce := 2,
                     valExt := [("aa", "0xE1")], orchVal := [("o1", "aa")], extOrch := [("0xE1", "o1")] })] }

/-- The orchestrator's confirmation is recorded under its validator, the query returns it with the
    registered external address, the set is no longer reported unsigned, and a second confirmation
    by the validator itself fails. -/
example : (match exHub.confirm "eth" "o1" (.set 1) "0xE1" "5167" with
    | .ok h' =>
      h'.confirmations "eth" (.set 1) == [("0xE1", "5167")] &&
      h'.confirmations "eth" (.set 2) == [] &&
      (match h'.unsignedSets "eth" "aa" with | .ok l => l == [2] | _ => false) &&
      (match h'.confirm "eth" "aa" (.set 1) "0xE1" "other" with | .ok _ => false | _ => true)
    | _ => false) = true := by decide +kernel

/-- Wrong external address, unknown set, unregistered validator: rejected. -/
example : (match exHub.confirm "eth" "o1" (.set 1) "0xE2" "5167" with | .ok _ => false | _ => true) = true := by
  decide
example : (match exHub.confirm "eth" "o1" (.set 3) "0xE1" "5167" with | .ok _ => false | _ => true) = true := by
  decide
example : (match exHub.confirm "eth" "bb" (.set 1) "0xE1" "5167" with | .ok _ => false | _ => true) = true := by
  decide

end Mhub2.C16
