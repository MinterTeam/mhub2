/-
  C02 — An external event is applied only when distinct bonded validators holding at least 66% of
  the total power voted for it.  `ReachB` is reachability by claims whose nonce fits `uint64` (see
  Props/C03.lean for why the bound matters for "each validator counted once").
-/
import Mhub2.Votes
import Mhub2.Generated.Facts
import Lemmas.Votes
namespace Mhub2.C02
open Mhub2

theorem votePower_def (power : String → Nat) (votes : List String) :
    votePower power votes = (votes.map (fun v => (power v : Int))).foldl (· + ·) 0 := rfl

theorem accepts_has_quorum {c : ChainSt} {power : String → Nat} {required : Int} {r : VoteRec}
    (h : c.accepts power required r = true) : required ≤ votePower power r.votes := by
  have := reachesThreshold_le r.votes 0 (accepts_iff.mp h).2.2
  omega

/-- The required power `(66·total + 99) / 100` is at least 66% of the total. -/
theorem threshold_is_66_percent {total s : Int} (ht : 0 ≤ total)
    (h : voteThreshold 66 99 100 total ≤ s) : 66 * total ≤ 100 * s :=
  voteThreshold_le (by decide) ht (by decide) (by decide) h

theorem applied_power_quorum {c : ChainSt} {power : String → Nat} {total : Int} {ht : Nat} :
    ∀ r ∈ (c.tallyPure power (voteThreshold 66 99 100 total) ht).2, 0 ≤ total →
      66 * total ≤ 100 * votePower power r.votes := by
  intro r hr htot
  have := reachesThreshold_le r.votes 0 (tallyPure_applied hr).2
  exact threshold_is_66_percent htot (by omega)

/-- An applied event had distinct validators holding at least 66% of `total`, each counted
    once.  (`ReachB`: distinctness needs `uint64` nonces.) -/
theorem applied_has_quorum {c : ChainSt} {power : String → Nat} {total : Int} {ht : Nat} (h : ReachB c) :
    ∀ r ∈ (c.tallyPure power (voteThreshold 66 99 100 total) ht).2, 0 ≤ total →
      r.votes.Nodup ∧ 66 * total ≤ 100 * votePower power r.votes := by
  intro r hr htot
  exact ⟨h.inv.nodup r (tallyPure_applied hr).1, applied_power_quorum r hr htot⟩

/-- The hub's required power is that threshold of the bonded total, for the shipped parameters. -/
theorem hub_required_is_threshold (h : Hub)
    (hp : h.params.voteNum = 66 ∧ h.params.voteAdd = 99 ∧ h.params.voteDen = 100) :
    h.requiredPower = voteThreshold 66 99 100 h.totalPower := by
  unfold Hub.requiredPower; rw [hp.1, hp.2.1, hp.2.2]

/-- A resolved signer is a bonded validator of the staking view: the validator the signer is
    registered as orchestrator for, or the signer itself when it has no such registration. -/
theorem signer_is_bonded_validator {h : Hub} {chain signer v : String}
    (hok : h.signerValidator chain signer = .ok v) :
    ∃ val ∈ h.staking, val.addr = v ∧ val.bonded = true ∧
      (alGet (h.chain chain).orchVal signer = some v ∨
       (alGet (h.chain chain).orchVal signer = none ∧ v = signer)) :=
  signerValidator_ok hok

theorem submit_records_bonded {h h' : Hub} {chain signer : String} {ev : Event}
    (hok : h.submitEvent chain signer ev = .ok h') :
    ∃ v c', h.signerValidator chain signer = .ok v ∧
      (h.chain chain).recordVote ev ev.hash v = .ok c' ∧ h' = h.setChain chain c' :=
  (submitEvent_ok hok).2

/-- The bridge's staking hooks are empty: a validator entering or leaving the bonded set, or a change of
    its power, writes no bridge state — in particular not the validator's last voted nonce, which is
    what enforces one vote per validator per nonce.  (Hence the model has no hook: `.staking` replaces
    the staking view and nothing else.) -/
theorem fact_staking_hooks : Generated.staking_hooks =
    "AfterDelegationModified{} | AfterValidatorBeginUnbonding{} | AfterValidatorBonded{} | AfterValidatorCreated{} | AfterValidatorRemoved{} | BeforeDelegationCreated{} | BeforeDelegationRemoved{} | BeforeDelegationSharesModified{} | BeforeValidatorModified{} | BeforeValidatorSlashed{}" := rfl

/-- Bridge lemmas: the source expressions the model was written from. -/
theorem fact_vote_threshold_expr : Generated.vote_threshold_expr =
    "sdk.NewInt(66).Mul(totalPower).Add(sdk.NewInt(99)).Quo(sdk.NewInt(100))" := rfl
theorem fact_try_cmp : Generated.try_cmp = "eventVotePower.GTE(requiredPower)" := rfl
theorem fact_tally_gate : Generated.tally_gate =
    "nonce == uint64(k.GetLastObservedEventNonce(ctx, chainId))+1" := rfl
theorem fact_record_contiguity : Generated.record_contiguity =
    "event.GetEventNonce() != expectedNonce && lastEventNonce != 0" := rfl
theorem fact_record_vote_append : Generated.record_vote_append =
    "append(eventVoteRecord.Votes, val.String())" := rfl
theorem fact_try_write_order : Generated.try_write_order =
    "setLastObservedEventNonce,SetLastObservedExternalBlockHeight,setExternalEventVoteRecord,processExternalEvent" := rfl
theorem fact_try_accepted_guard : Generated.try_accepted_guard = "!eventVoteRecord.Accepted" := rfl
theorem fact_try_power_sources : Generated.try_power_sources =
    "k.StakingKeeper.GetLastValidatorPower(ctx, val) | types.EventVoteRecordPowerThreshold(k.StakingKeeper.GetLastTotalPower(ctx))" := rfl
theorem fact_signer_conds : Generated.signer_conds =
    "err != nil | validator == nil | validatorI == nil | !validatorI.IsBonded()" := rfl
theorem fact_voteThresholdNum : Generated.voteThresholdNum = 66 := rfl
theorem fact_voteThresholdAdd : Generated.voteThresholdAdd = 99 := rfl
theorem fact_voteThresholdDen : Generated.voteThresholdDen = 100 := rfl
/-- The model's default parameters are the extracted constants. -/
theorem fact_params_default : ({} : Params).voteNum = Generated.voteThresholdNum ∧
    ({} : Params).voteAdd = Generated.voteThresholdAdd ∧
    ({} : Params).voteDen = Generated.voteThresholdDen := ⟨rfl, rfl, rfl⟩

/-! Non-vacuity: three validators with powers 5, 3, 2 (total 10, required 7).  `a` alone (5) does
    not reach the threshold; `a` and `b` (8) do. -/
def exPower (v : String) : Nat := if v == "a" then 5 else if v == "b" then 3 else if v == "c" then 2 else 0
def exReq : Int := voteThreshold 66 99 100 10
def exEv : Event := .contractCall 1 [] 0 10

example : (exReq == 7) = true := by decide
example : ((vrun [.vote "a" exEv [1], .tally exPower exReq 5]).lastObserved == 0) = true := by decide
example : ((vrun [.vote "a" exEv [1], .vote "b" exEv [1], .tally exPower exReq 5]).lastObserved == 1) = true := by
  decide
example : ((vapplied [.vote "a" exEv [1], .vote "b" exEv [1], .tally exPower exReq 5]).map (·.votes)
    == [["a", "b"]]) = true := by decide
/-- votes for different claims at the same nonce are not pooled: 5 + 3 split over two hashes -/
example : ((vrun [.vote "a" exEv [1], .vote "b" exEv [2], .tally exPower exReq 5]).lastObserved == 0) = true := by
  decide
def exHub : Hub := { chains := ["ethereum"], staking := [⟨"a", 5, true⟩, ⟨"b", 3, false⟩],
                     cs := [("ethereum", { orchVal := [("orch", "a")] })] }
example : (match exHub.signerValidator "ethereum" "orch" with | .ok v => v == "a" | _ => false) = true := by decide
example : (match exHub.signerValidator "ethereum" "a" with | .ok v => v == "a" | _ => false) = true := by decide
example : (match exHub.signerValidator "ethereum" "b" with | .ok _ => false | _ => true) = true := by decide

end Mhub2.C02
