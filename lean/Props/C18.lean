/-
  C18 — Prices and holder lists change only at an epoch boundary when distinct validators holding
  at least 66 % of voting power reported in that epoch, each validator's latest report counting
  once.  Every stored price is the stake-weighted median of the reported values, and a holder
  list is adopted only when more than two-thirds of stake reported the identical list.
  The invariant `OracleSt.WF` is in Lemmas/Oracle.
-/
import Mhub2.Oracle
import Mhub2.Generated.Facts
import Lemmas.Oracle
namespace Mhub2.C18
open Mhub2

/-! ### 1. Nothing changes outside an epoch boundary -/

theorem claims_do_not_change_prices {h : Hub} {o o' : OracleSt} {v : String} {e : Nat}
    {ps : List (String × Int)} (hok : oraclePriceClaim h o v e ps = .ok o') :
    o'.prices = o.prices ∧ o'.holders = o.holders ∧ o'.epoch = o.epoch := by
  obtain ⟨_, _, _, ⟨_, rfl⟩ | ⟨_, _, rfl⟩⟩ := oraclePriceClaim_ok_iff.mp hok <;> exact ⟨rfl, rfl, rfl⟩

theorem holder_claims_do_not_change_prices {h : Hub} {o o' : OracleSt} {v : String} {e : Nat}
    {hs : List (String × Int)} (hok : oracleHoldersClaim h o v e hs = .ok o') :
    o'.prices = o.prices ∧ o'.holders = o.holders ∧ o'.epoch = o.epoch := by
  obtain ⟨_, _, _, ⟨_, rfl⟩ | ⟨_, rfl⟩⟩ := oracleHoldersClaim_ok_iff.mp hok <;> exact ⟨rfl, rfl, rfl⟩

theorem no_boundary_no_change {h : Hub} {o o' : OracleSt} {n a d : Int}
    (hb : h.height % 5 ≠ 0) (hok : oracleEndBlock h o n a d = .ok o') : o' = o := by
  rcases oracleEndBlock_cases hok with ⟨_, he⟩ | ⟨h0, _⟩
  · exact he
  · exact absurd h0 hb

/-- A price claim for another epoch is accepted but ignored. -/
theorem price_claim_other_epoch_ignored {h : Hub} {o o' : OracleSt} {v : String} {e : Nat}
    {ps : List (String × Int)} (hne : o.epoch ≠ e) (hok : oraclePriceClaim h o v e ps = .ok o') :
    o' = o := by
  obtain ⟨_, _, _, ⟨_, he⟩ | ⟨he, _⟩⟩ := oraclePriceClaim_ok_iff.mp hok
  · exact he
  · exact absurd he hne

/-- A holders claim for another epoch is accepted but ignored. -/
theorem holders_claim_other_epoch_ignored {h : Hub} {o o' : OracleSt} {v : String} {e : Nat}
    {hs : List (String × Int)} (hne : o.epoch ≠ e) (hok : oracleHoldersClaim h o v e hs = .ok o') :
    o' = o := by
  obtain ⟨_, _, _, ⟨_, he⟩ | ⟨he, _⟩⟩ := oracleHoldersClaim_ok_iff.mp hok
  · exact he
  · exact absurd he hne

/-- Only known validators can claim, and a claim counted for the current epoch carries a positive
    value for every required price name. -/
theorem price_claim_validated {h : Hub} {o o' : OracleSt} {v : String} {e : Nat}
    {ps : List (String × Int)} (hok : oraclePriceClaim h o v e ps = .ok o') :
    e ≠ 0 ∧ (h.validator? v).isSome ∧
    (o.epoch = e → ∀ n ∈ requiredPriceNames h, ∃ p ∈ ps, p.1 = n ∧ p.2 > 0) := by
  obtain ⟨h1, _, h2, hc⟩ := oraclePriceClaim_ok_iff.mp hok
  refine ⟨h1, h2, fun he => ?_⟩
  rcases hc with ⟨hne, _⟩ | ⟨_, hreq, _⟩
  · exact absurd he hne
  · exact hreq

/-! ### 2. Each validator is counted once, with its latest report -/

theorem votes_nodup_init : OracleSt.WF {} := OracleSt.WF_init

theorem votes_nodup {h : Hub} {o o' : OracleSt} (hwf : o.WF) :
    (∀ v e ps, oraclePriceClaim h o v e ps = .ok o' → o'.WF) ∧
    (∀ v e hs, oracleHoldersClaim h o v e hs = .ok o' → o'.WF) ∧
    (∀ n a d, oracleProcessEpoch h o n a d = .ok o' → o'.WF) ∧
    (∀ n a d, oracleEndBlock h o n a d = .ok o' → o'.WF) :=
  ⟨fun _ _ _ hok => OracleSt.WF_priceClaim hwf hok,
   fun _ _ _ hok => OracleSt.WF_holdersClaim hwf hok,
   fun _ _ _ hok => OracleSt.WF_processEpoch hwf hok,
   fun _ _ _ hok => OracleSt.WF_endBlock hwf hok⟩

theorem votes_nodup_meaning {o : OracleSt} (hwf : o.WF) :
    o.priceVotes.Nodup ∧ o.holderVotes.Nodup ∧
    (∀ v ∈ o.priceVotes, ∃ ps, alGet o.priceClaims v = some ps) ∧
    (∀ v ∈ o.holderVotes, ∃ hs, alGet o.holderClaims v = some hs) := by
  obtain ⟨h1, h2, _, _, h5, h6⟩ := hwf
  exact ⟨h1, h2, fun v hv => Option.isSome_iff_exists.mp (h5 v hv),
    fun v hv => Option.isSome_iff_exists.mp (h6 v hv)⟩

/-- A successful price claim for the current epoch: the validator is listed (once — if it was
    listed before, the vote list does not change), its stored claim is the new one (the previous
    one is gone), and nobody else's claim is touched. -/
theorem price_claim_latest_once {h : Hub} {o o' : OracleSt} {v : String} {ps : List (String × Int)}
    (hok : oraclePriceClaim h o v o.epoch ps = .ok o') :
    alGet o'.priceClaims v = some ps ∧ v ∈ o'.priceVotes ∧
    (v ∈ o.priceVotes → o'.priceVotes = o.priceVotes) ∧
    (∀ w ∈ o.priceVotes, w ∈ o'.priceVotes) ∧
    (∀ w, w ≠ v → alGet o'.priceClaims w = alGet o.priceClaims w ∧
                   (w ∈ o'.priceVotes ↔ w ∈ o.priceVotes)) := by
  obtain ⟨_, _, _, ⟨hne, _⟩ | ⟨_, _, rfl⟩⟩ := oraclePriceClaim_ok_iff.mp hok
  · exact absurd rfl hne
  · exact recordClaim_spec (o.priceClaims, o.priceVotes) v ps

theorem holders_claim_latest_once {h : Hub} {o o' : OracleSt} {v : String} {hs : List (String × Int)}
    (hok : oracleHoldersClaim h o v o.epoch hs = .ok o') :
    alGet o'.holderClaims v = some hs ∧ v ∈ o'.holderVotes ∧
    (v ∈ o.holderVotes → o'.holderVotes = o.holderVotes) ∧
    (∀ w ∈ o.holderVotes, w ∈ o'.holderVotes) ∧
    (∀ w, w ≠ v → alGet o'.holderClaims w = alGet o.holderClaims w ∧
                   (w ∈ o'.holderVotes ↔ w ∈ o.holderVotes)) := by
  obtain ⟨_, _, _, ⟨hne, _⟩ | ⟨_, rfl⟩⟩ := oracleHoldersClaim_ok_iff.mp hok
  · exact absurd rfl hne
  · exact recordClaim_spec (o.holderClaims, o.holderVotes) v hs

/-- Epoch processing always advances the epoch and empties both vote lists: reports of one epoch
    are never counted in another. -/
theorem epoch_resets_votes {h : Hub} {o o' : OracleSt} {n a d : Int}
    (hok : oracleProcessEpoch h o n a d = .ok o') :
    o'.epoch = o.epoch + 1 ∧ o'.priceVotes = [] ∧ o'.holderVotes = [] :=
  processEpoch_frame hok

/-- **Latest report, counted once** (prices).  From an empty vote list (the state every epoch
    starts in, see `epoch_resets_votes`) deliver any sequence of price-claim messages — for any
    epoch, valid or rejected, repeated or not.  Then the vote list holds exactly the validators
    with a counted message, each once; the claim stored for a voter is the prices of its *last*
    counted message; prices, holders and the epoch do not move. -/
theorem latest_report_counts_once (h : Hub) (o : OracleSt) (msgs : List PriceMsg)
    (hstart : o.priceVotes = []) :
    (priceClaimRun h o msgs).priceVotes.Nodup ∧
    (priceClaimRun h o msgs).prices = o.prices ∧ (priceClaimRun h o msgs).holders = o.holders ∧
    (priceClaimRun h o msgs).epoch = o.epoch ∧
    ∀ v, (v ∈ (priceClaimRun h o msgs).priceVotes ↔
            ∃ m ∈ msgs, m.1 = v ∧ priceClaimCounts h o.epoch m = true) ∧
         (v ∈ (priceClaimRun h o msgs).priceVotes →
            ∃ m, (msgs.filter fun m => priceClaimCounts h o.epoch m && m.1 == v).getLast? = some m ∧
              alGet (priceClaimRun h o msgs).priceClaims v = some m.2.2) := by
  rw [priceClaimRun_eq, hstart]
  obtain ⟨hn, hv⟩ := recordClaims_latest (priceClaimCounts h o.epoch) (·.1) (·.2.2) msgs o.priceClaims rfl
  exact ⟨hn, rfl, rfl, rfl, hv⟩

theorem latest_holders_report_counts_once (h : Hub) (o : OracleSt) (msgs : List HoldersMsg)
    (hstart : o.holderVotes = []) :
    (holdersClaimRun h o msgs).holderVotes.Nodup ∧
    (holdersClaimRun h o msgs).prices = o.prices ∧ (holdersClaimRun h o msgs).holders = o.holders ∧
    (holdersClaimRun h o msgs).epoch = o.epoch ∧
    ∀ v, (v ∈ (holdersClaimRun h o msgs).holderVotes ↔
            ∃ m ∈ msgs, m.1 = v ∧ holdersClaimCounts h o.epoch m = true) ∧
         (v ∈ (holdersClaimRun h o msgs).holderVotes →
            ∃ m, (msgs.filter fun m => holdersClaimCounts h o.epoch m && m.1 == v).getLast? = some m ∧
              alGet (holdersClaimRun h o msgs).holderClaims v = some m.2.2) := by
  rw [holdersClaimRun_eq, hstart]
  obtain ⟨hn, hv⟩ := recordClaims_latest (holdersClaimCounts h o.epoch) (·.1) (·.2.2) msgs o.holderClaims rfl
  exact ⟨hn, rfl, rfl, rfl, hv⟩

/-- "Counted" is what the model does: the message is for the current epoch and is accepted —
    non-zero epoch, no duplicated name, a known validator, a positive value for every required
    price name. -/
theorem counted_meaning (h : Hub) (o : OracleSt) (m : PriceMsg) :
    (priceClaimCounts h o.epoch m = true ↔
      (m.2.1 = o.epoch ∧ ∃ o', oraclePriceClaim h o m.1 m.2.1 m.2.2 = .ok o')) ∧
    (priceClaimCounts h o.epoch m = true ↔
      m.2.1 ≠ 0 ∧ (m.2.2.map (·.1)).eraseDups.length = m.2.2.length ∧ (h.validator? m.1).isSome ∧
      m.2.1 = o.epoch ∧ ∀ n ∈ requiredPriceNames h, ∃ p ∈ m.2.2, p.1 = n ∧ p.2 > 0) :=
  ⟨priceClaimCounts_iff_ok h o m, priceClaimCounts_iff h o.epoch m⟩

/-- The reports that enter the medians at the end of an epoch are exactly the values of the
    *last* counted message of each validator (with non-zero normalised power), once each. -/
theorem epoch_reports_are_latest (h : Hub) (o : OracleSt) (msgs : List PriceMsg)
    (hstart : o.priceVotes = []) (pw : List (String × Nat)) (name : String) (x : Int) (w : Nat) :
    (x, w) ∈ priceReports pw (priceClaimRun h o msgs).priceVotes (priceClaimRun h o msgs).priceClaims name ↔
      ∃ v m, w = (alGet pw v).getD 0 ∧ w ≠ 0 ∧
        (msgs.filter fun m => priceClaimCounts h o.epoch m && m.1 == v).getLast? = some m ∧
        (name, x) ∈ m.2.2 := by
  obtain ⟨_, _, _, _, hall⟩ := latest_report_counts_once h o msgs hstart
  rw [mem_priceReports]
  constructor
  · rintro ⟨v, hv, hw, hw0, hmem⟩
    obtain ⟨m, hm, hget⟩ := (hall v).2 hv
    rw [hget] at hmem
    exact ⟨v, m, hw, hw0, hm, hmem⟩
  · rintro ⟨v, m, hw, hw0, hm, hmem⟩
    have hmf := List.mem_of_getLast? hm
    obtain ⟨hmm, hmc⟩ := List.mem_filter.mp hmf
    have hmc' : priceClaimCounts h o.epoch m = true ∧ m.1 = v := by simpa using hmc
    have hv : v ∈ (priceClaimRun h o msgs).priceVotes := (hall v).1.mpr ⟨m, hmm, hmc'.2, hmc'.1⟩
    obtain ⟨m', hm', hget⟩ := (hall v).2 hv
    rw [hm] at hm'
    cases hm'
    exact ⟨v, hv, hw, hw0, by rw [hget]; exact hmem⟩

/-! ### 3. Quorum -/

/-- Prices change in an epoch only if pairwise distinct validators holding at least 66 % of the
    bonded power reported prices in it. -/
theorem price_quorum {h : Hub} {o o' : OracleSt}
    (hok : oracleProcessEpoch h o 66 99 100 = .ok o') (hch : o'.prices ≠ o.prices) :
    o.priceVotes ≠ [] ∧ oracleReached h 66 99 100 o.priceVotes = true ∧
    (o.WF → o.priceVotes.Nodup ∧
      66 * h.totalPower ≤ 100 * sumNats (o.priceVotes.map h.lastPower) ∧
      sumNats (o.priceVotes.map h.lastPower) ≤ h.totalPower) := by
  rcases processEpoch_prices hok with ⟨heq, _⟩ | ⟨hne, hr, _⟩
  · exact absurd heq hch
  · exact ⟨hne, hr, fun hwf => ⟨hwf.1, oracleReached_quorum hr, sum_lastPower_le_total h hwf.1⟩⟩

/-- The holder list changes in an epoch only if pairwise distinct validators holding at least
    66 % of the bonded power reported holders in it. -/
theorem holders_quorum {h : Hub} {o o' : OracleSt}
    (hok : oracleProcessEpoch h o 66 99 100 = .ok o') (hch : o'.holders ≠ o.holders) :
    o.holderVotes ≠ [] ∧ oracleReached h 66 99 100 o.holderVotes = true ∧
    (o.WF → o.holderVotes.Nodup ∧
      66 * h.totalPower ≤ 100 * sumNats (o.holderVotes.map h.lastPower) ∧
      sumNats (o.holderVotes.map h.lastPower) ≤ h.totalPower) := by
  rcases processEpoch_holders hok with heq | ⟨hne, hr, _⟩
  · exact absurd heq hch
  · exact ⟨hne, hr, fun hwf => ⟨hwf.2.1, oracleReached_quorum hr, sum_lastPower_le_total h hwf.2.1⟩⟩

/-- The whole statement on the end-blocker: a change of prices or holders happens only on an
    epoch boundary and only with the quorum. -/
theorem change_only_at_boundary_with_quorum {h : Hub} {o o' : OracleSt} (hwf : o.WF)
    (hok : oracleEndBlock h o 66 99 100 = .ok o') :
    (o'.prices ≠ o.prices → h.height % 5 = 0 ∧ o.priceVotes.Nodup ∧
      66 * h.totalPower ≤ 100 * sumNats (o.priceVotes.map h.lastPower)) ∧
    (o'.holders ≠ o.holders → h.height % 5 = 0 ∧ o.holderVotes.Nodup ∧
      66 * h.totalPower ≤ 100 * sumNats (o.holderVotes.map h.lastPower)) := by
  rcases oracleEndBlock_cases hok with ⟨_, rfl⟩ | ⟨h0, hp⟩
  · exact ⟨fun hc => absurd rfl hc, fun hc => absurd rfl hc⟩
  · constructor
    · intro hc
      obtain ⟨_, _, hq⟩ := price_quorum hp hc
      exact ⟨h0, (hq hwf).1, (hq hwf).2.1⟩
    · intro hc
      obtain ⟨_, _, hq⟩ := holders_quorum hp hc
      exact ⟨h0, (hq hwf).1, (hq hwf).2.1⟩

/-- The two arithmetic facts behind the quorum: the running sum of natural powers only grows,
    and the truncated `(66·T + 99) / 100` is the ceiling of 66 % of `T`. -/
theorem threshold_arith {power : String → Nat} {req : Int} {votes : List String} (T : Nat) (s : Int) :
    (reachesThreshold power req votes 0 = true → req ≤ ((sumNats (votes.map power) : Nat) : Int)) ∧
    (Int.tdiv (66 * (T : Int) + 99) 100 ≤ s → 66 * (T : Int) ≤ 100 * s) := by
  constructor
  · intro hr; have := reachesThreshold_sum hr; omega
  · intro hs
    have := (threshold_ceil T).1
    unfold oracleThreshold at this
    omega

/-! ### 4. Every stored price is the stake-weighted median -/

theorem weightedNth_eq_getElem? (l : List (Int × Nat)) (k : Nat) :
    weightedNth l k = (expandWeighted l)[k]? := Mhub2.weightedNth_eq_getElem? l k

theorem expandWeighted_length (l : List (Int × Nat)) : (expandWeighted l).length = totalWeight l :=
  length_expandWeighted l

theorem sortByValue_perm_sorted (l : List (Int × Nat)) :
    (sortByValue l).Perm l ∧ (sortByValue l).Pairwise (fun a b => a.1 ≤ b.1) :=
  ⟨sortByValue_perm l, sortByValue_sorted l⟩

/-- `weightedMedian l` is the median of `e`, the ascending list in which every reported value
    appears as many times as the weight reported for it: the middle element for odd length, the
    truncated mean of the two middle elements for even length, nothing for the empty list. -/
theorem weightedMedian_spec (l : List (Int × Nat)) :
    let e := expandWeighted (sortByValue l)
    let W := e.length
    e.Pairwise (· ≤ ·) ∧ e.Perm (expandWeighted l) ∧ W = totalWeight l ∧
    (∀ x, e.count x = sumNats ((l.filter fun p => p.1 == x).map (·.2))) ∧
    (W = 0 → weightedMedian l = none) ∧
    (W % 2 = 1 → weightedMedian l = e[W / 2]?) ∧
    (W % 2 = 0 → W > 0 → ∃ a b, e[W / 2]? = some a ∧ e[W / 2 - 1]? = some b ∧
      weightedMedian l = some (Int.tdiv (a + b) 2)) := by
  dsimp only
  exact ⟨medianList_sorted l, medianList_perm l, medianList_length l, count_medianList l, weightedMedian_zero,
    weightedMedian_odd, fun h0 hpos => ⟨_, _, List.getElem?_eq_getElem (by omega), List.getElem?_eq_getElem (by omega),
      weightedMedian_even h0 hpos⟩⟩

theorem weightedMedian_isSome (l : List (Int × Nat)) :
    (weightedMedian l).isSome ↔ totalWeight l > 0 := by
  rw [← medianList_length]
  rcases Nat.eq_zero_or_pos (medianList l).length with hz | hpos
  · rw [weightedMedian_zero hz, hz]; exact ⟨fun h => (nomatch h), fun h => absurd h (Nat.lt_irrefl 0)⟩
  · refine ⟨fun _ => hpos, fun _ => ?_⟩
    rcases Nat.mod_two_eq_zero_or_one (medianList l).length with h0 | h1
    · rw [weightedMedian_even h0 hpos]; rfl
    · rw [weightedMedian_odd h1, List.getElem?_eq_getElem (by omega)]; rfl

/-- The median splits the weight: in the sorted expanded list everything up to the middle is
    `≤ m` and everything from the middle on is `≥ m` (odd total weight). -/
theorem weightedMedian_splits_odd (l : List (Int × Nat)) {m : Int}
    (hodd : (expandWeighted (sortByValue l)).length % 2 = 1) (hm : weightedMedian l = some m) :
    let e := expandWeighted (sortByValue l)
    (∀ i (hi : i < e.length), i ≤ e.length / 2 → e[i] ≤ m) ∧
    (∀ i (hi : i < e.length), e.length / 2 ≤ i → m ≤ e[i]) := by
  dsimp only
  have hmid : (expandWeighted (sortByValue l)).length / 2 < (expandWeighted (sortByValue l)).length := by omega
  have h := weightedMedian_odd hodd
  rw [hm, List.getElem?_eq_getElem hmid] at h
  rw [Option.some.inj h]
  exact ⟨fun i hi hle => sorted_getElem_le (medianList_sorted l) hle hmid,
    fun i hi hle => sorted_getElem_le (medianList_sorted l) hle hi⟩

theorem weightedMedian_between_even (l : List (Int × Nat)) {m : Int}
    (heven : (expandWeighted (sortByValue l)).length % 2 = 0) (hm : weightedMedian l = some m) :
    let e := expandWeighted (sortByValue l)
    ∃ a b, e[e.length / 2 - 1]? = some b ∧ e[e.length / 2]? = some a ∧ b ≤ m ∧ m ≤ a := by
  dsimp only
  have hpos : 0 < (expandWeighted (sortByValue l)).length := Nat.pos_of_ne_zero fun hz => by
    rw [weightedMedian_zero hz] at hm; cases hm
  have h := weightedMedian_even heven hpos
  rw [hm] at h
  obtain rfl := Option.some.inj h
  exact ⟨_, _, List.getElem?_eq_getElem (by omega), List.getElem?_eq_getElem (by omega),
    tdiv_two_between (sorted_getElem_le (e := expandWeighted (sortByValue l)) (medianList_sorted l)
      (Nat.sub_le _ 1) (by omega))⟩

/-- Every price stored by an epoch that changed prices is the weighted median of the values the
    voters' latest claims carry for that name, each weighted by the voter's normalised power
    `⌊power · 65535 / total⌋`. -/
theorem stored_price_is_median {h : Hub} {o o' : OracleSt} {n a d : Int}
    (hok : oracleProcessEpoch h o n a d = .ok o') (hch : o'.prices ≠ o.prices) :
    ∃ pw, h.normalizedPowers = .ok pw ∧
      (∀ v, (alGet pw v).getD 0 = h.bondedPower v * 65535 / h.totalPower) ∧
      ∀ name m, (name, m) ∈ o'.prices ↔
        ((∃ x w, (x, w) ∈ priceReports pw o.priceVotes o.priceClaims name) ∧
         weightedMedian (priceReports pw o.priceVotes o.priceClaims name) = some m) := by
  rcases processEpoch_prices hok with ⟨heq, _⟩ | ⟨_, _, pw, hpw, hpr⟩
  · exact absurd heq hch
  · refine ⟨pw, hpw, normalizedPowers_ok hpw, fun name m => ?_⟩
    rw [hpr, mem_computePrices_iff, exists_mem_priceReports_iff]

/-- Every name some voter (with non-zero normalised power) reported gets a price: the median is
    never undefined for a reported name, and nothing else is stored. -/
theorem reported_name_has_price {pw : List (String × Nat)} {votes : List String}
    {claims : List (String × List (String × Int))} {name : String} :
    (∃ m, (name, m) ∈ computePrices pw votes claims) ↔
      ∃ x w, (x, w) ∈ priceReports pw votes claims name := by
  constructor
  · rintro ⟨m, hm⟩
    exact exists_mem_priceReports_iff.mpr (mem_computePrices_iff.mp hm).1
  · rintro ⟨x, w, hxw⟩
    obtain ⟨_, _, _, hw0, _⟩ := mem_priceReports.mp hxw
    have hpos : totalWeight (priceReports pw votes claims name) > 0 :=
      Nat.lt_of_lt_of_le (Nat.pos_of_ne_zero hw0) (le_totalWeight_of_mem hxw)
    obtain ⟨m, hm⟩ := Option.isSome_iff_exists.mp ((weightedMedian_isSome _).mpr hpos)
    exact ⟨m, mem_computePrices_iff.mpr ⟨exists_mem_priceReports_iff.mp ⟨x, w, hxw⟩, hm⟩⟩

theorem price_reports_are_latest_claims {pw : List (String × Nat)} {votes : List String}
    {claims : List (String × List (String × Int))} {name : String} {x : Int} {w : Nat} :
    (x, w) ∈ priceReports pw votes claims name ↔
      ∃ v ∈ votes, w = (alGet pw v).getD 0 ∧ w ≠ 0 ∧ (name, x) ∈ (alGet claims v).getD [] :=
  mem_priceReports

/-! ### 5. Holder lists -/

theorem computeHolders_spec {powers : List (String × Nat)} {votes : List String}
    {claims : List (String × List (String × Int))} {l : List (String × Int)}
    (h : computeHolders powers votes claims = some l) :
    ∃ c, (sumNats (((votes.map fun v => (v, (alGet claims v).getD [])).filter
            fun p => holdersCanon p.2 == c).map fun p => (alGet powers p.1).getD 0) > 43690) ∧
      ∃ v ∈ votes, (alGet claims v).getD [] = l ∧ holdersCanon l = c :=
  computeHolders_some h

/-- More than 43690 of 65535 in normalised powers is more than two thirds of the raw power
    (`two_thirds_of_floor_sum` of Lemmas/Oracle, which also covers `T = 0`). -/
theorem two_thirds (ps : List Nat) (T : Nat) (_hT : T > 0)
    (h : sumNats (ps.map fun p => p * 65535 / T) > 43690) : 3 * sumNats ps > 2 * T :=
  two_thirds_of_floor_sum ps T h

/-- Lists with the same canonical form are the same list up to the order of entries (as
    rendered "address:value"). -/
theorem same_canon_same_entries {l l' : List (String × Int)} (h : holdersCanon l = holdersCanon l') :
    (l.map fun p => s!"{p.1}:{p.2}").Perm (l'.map fun p => s!"{p.1}:{p.2}") := by
  unfold holdersCanon at h
  have h1 := isort_perm (fun a b => bytesLt (strBytes a) (strBytes b)) (l.map fun p => s!"{p.1}:{p.2}")
  have h2 := isort_perm (fun a b => bytesLt (strBytes a) (strBytes b)) (l'.map fun p => s!"{p.1}:{p.2}")
  rw [h] at h1
  exact h1.symm.trans h2

/-- The holder list changes in an epoch only to a list that a voter reported in that epoch, and
    the (pairwise distinct) voters who reported that identical list hold more than two thirds
    of the bonded power. -/
theorem holders_two_thirds_of_stake {h : Hub} {o o' : OracleSt} {n a d : Int} (hwf : o.WF)
    (hok : oracleProcessEpoch h o n a d = .ok o') (hch : o'.holders ≠ o.holders) :
    ∃ group : List String, group.Nodup ∧ (∀ v ∈ group, v ∈ o.holderVotes) ∧
      (∀ v ∈ group, holdersCanon ((alGet o.holderClaims v).getD []) = holdersCanon o'.holders) ∧
      (∃ v ∈ group, alGet o.holderClaims v = some o'.holders) ∧
      3 * sumNats (group.map h.bondedPower) > 2 * h.totalPower ∧
      sumNats (group.map h.bondedPower) ≤ h.totalPower := by
  rcases processEpoch_holders hok with heq | ⟨_, _, pw, hpw, hcomp⟩
  · exact absurd heq hch
  · obtain ⟨c, hsum, v, hv, hvl, hcan⟩ := computeHolders_some hcomp
    have hnorm := normalizedPowers_ok hpw
    have hnd : ((holdersGroup o.holderVotes o.holderClaims c).map (·.1)).Nodup :=
      (holdersGroup_sublist _ _ c).nodup hwf.2.1
    refine ⟨(holdersGroup o.holderVotes o.holderClaims c).map (·.1), hnd,
      fun w hw => (mem_holdersGroup.mp hw).1, fun w hw => by rw [(mem_holdersGroup.mp hw).2, hcan], ?_, ?_,
      sum_bondedPower_le_total h hnd⟩
    · refine ⟨v, mem_holdersGroup.mpr ⟨hv, by rw [hvl, hcan]⟩, ?_⟩
      obtain ⟨hs, hsv⟩ := Option.isSome_iff_exists.mp (hwf.2.2.2.2.2 v hv)
      rw [hsv] at hvl ⊢
      exact congrArg some hvl
    · apply two_thirds_of_floor_sum _ h.totalPower
      have : (List.map (fun p => p * 65535 / h.totalPower)
          (List.map h.bondedPower (List.map (fun x => x.fst) (holdersGroup o.holderVotes o.holderClaims c))))
          = (holdersGroup o.holderVotes o.holderClaims c).map fun p => (alGet pw p.1).getD 0 := by
        rw [List.map_map, List.map_map]
        apply List.map_congr_left
        intro p _
        simp [hnorm p.1]
      rw [this]
      exact hsum

/-! ### 6. Bridge lemmas: the source expressions the model was written from -/

theorem fact_oracle_threshold : Generated.oracle_threshold = "sdk.NewInt(66)" := rfl
theorem fact_oracle_required : Generated.oracle_required =
    "types.AttestationVotesPowerThreshold.Mul(totalPower).Add(sdk.NewInt(99)).Quo(sdk.NewInt(100))" := rfl
theorem fact_oracle_epoch_period : Generated.oracle_epoch_period = "ctx.BlockHeight()%5 == 0" := rfl
theorem fact_oracle_try_conds : Generated.oracle_try_conds =
    "!att.Observed && k.GetCurrentEpoch(ctx) > claim.GetEpoch() | err != nil | attestationPower.GTE(requiredPower)" := rfl
theorem fact_oracle_vote_body : Generated.oracle_vote_body =
    "{ att := k.GetAttestation(ctx, details.GetEpoch(), details) if att == nil { att = &types.Attestation{ Epoch: details.GetEpoch(), Observed: false, } } sval := k.StakingKeeper.Validator(ctx, sdk.ValAddress(details.GetClaimer())) for _, vote := range att.Votes { if vote == sval.GetOperator().String() { return att } } att.Votes = append(att.Votes, sval.GetOperator().String()) return att }" := rfl
theorem fact_oracle_handle_conds : Generated.oracle_handle_conds =
    "len(price)%2 == 0 | votes > math.MaxUint16*2/3" := rfl
theorem fact_oracle_median : Generated.oracle_median =
    "price[len(price)/2].Add(price[len(price)/2-1]).QuoInt64(2) | price[len(price)/2]" := rfl
theorem fact_oracle_normalise : Generated.oracle_normalise =
    "sdk.NewUint(power).MulUint64(math.MaxUint16).QuoUint64(totalPower).Uint64()" := rfl
theorem fact_oracle_epoch_order : Generated.oracle_epoch_order =
    "setCurrentEpoch,tryAttestation,deletePriceClaim,DeleteAttestation,tryAttestation,deleteHoldersClaim,DeleteAttestation" := rfl
theorem fact_oracle_price_conds : Generated.oracle_price_conds =
    "sval == nil | k.GetCurrentEpoch(ctx) != msg.GetEpoch() | price.GetName() == requiredPrice && price.Value.IsPositive() | !found | err != nil" := rfl
theorem fact_oracleThresholdNum : Generated.oracleThresholdNum = 66 := rfl
theorem fact_oracleThresholdAdd : Generated.oracleThresholdAdd = 99 := rfl
theorem fact_oracleThresholdDen : Generated.oracleThresholdDen = 100 := rfl

/-! ### 7. Non-vacuity -/

/-- 1 5 5 9 9 → 5. -/
example : weightedMedian [(5, 2), (1, 1), (9, 2)] = some 5 := by
  rw [weightedMedian_congr (l' := [(1, 1), (5, 2), (9, 2)]) (by decide)]
  unfold weightedMedian
  rw [sortByValue_of_sorted (by decide)]
  decide

example : weightedMedian [(4, 1), (7, 1)] = some 5 := by
  unfold weightedMedian
  rw [sortByValue_of_sorted (by decide)]
  decide

example : weightedMedian [] = none :=
  weightedMedian_zero (medianList_length [])

def exHub : Hub := { height := 5, staking := [⟨"a", 5, true⟩, ⟨"b", 3, true⟩, ⟨"c", 2, true⟩] }
def exPs (x : Int) : List (String × Int) := [("eth", x), ("ethereum/gas", 1), ("bnb", 1), ("bsc/gas", 1)]

def exO : OracleSt :=
  { priceClaims := [("a", exPs 10), ("b", exPs 12)], priceVotes := ["a", "b"] }

/-- `exO` is reached from the initial state by two claims; a repeated claim by `a` is counted once
    and only its latest values are kept. -/
example : (match oraclePriceClaim exHub {} "a" 1 (exPs 11) with
    | .ok o1 => match oraclePriceClaim exHub o1 "a" 1 (exPs 10) with
      | .ok o2 => match oraclePriceClaim exHub o2 "b" 1 (exPs 12) with
        | .ok o3 => o3.priceVotes == exO.priceVotes && o3.priceClaims == exO.priceClaims && o3.epoch == 1
        | _ => false
      | _ => false
    | _ => false) = true := by decide

example : exO.WF := by
  refine ⟨by decide, by decide, by decide, by decide, by decide, by decide⟩


/-- An epoch in which prices change: `a` and `b` hold 8 of 10, the eth price becomes the
    weighted median 10 (weights 32767 and 19660). -/
example : ∃ o', oracleEndBlock exHub exO 66 99 100 = .ok o' ∧ ("eth", 10) ∈ o'.prices ∧
    o'.prices ≠ exO.prices ∧ o'.epoch = 2 ∧ o'.priceVotes = [] := by
  have hrun : (match oracleEndBlock exHub exO 66 99 100 with | .ok _ => true | _ => false) = true := by
    decide
  cases hok : oracleEndBlock exHub exO 66 99 100 with
  | error e => rw [hok] at hrun; cases hrun
  | ok o' =>
    rcases oracleEndBlock_cases hok with ⟨hb, _⟩ | ⟨_, hp⟩
    · exact absurd (by decide) hb
    · obtain ⟨pw, hpw, hpr⟩ := processEpoch_prices_reached hp (by decide) (by decide)
      have hpowers : exHub.normalizedPowers = .ok [("a", 32767), ("b", 19660), ("c", 13107)] := rfl
      rw [hpowers] at hpw
      cases hpw
      have hrep : priceReports [("a", 32767), ("b", 19660), ("c", 13107)] exO.priceVotes exO.priceClaims "eth"
          = [(10, 32767), (12, 19660)] := by decide
      have hmem : ("eth", 10) ∈ o'.prices := by
        rw [hpr, mem_computePrices_iff, hrep]
        refine ⟨by decide, ?_⟩
        unfold weightedMedian
        rw [sortByValue_of_sorted (by decide)]
        decide
      obtain ⟨he, hv, _⟩ := processEpoch_frame hp
      refine ⟨o', rfl, hmem, ?_, he, hv⟩
      intro h
      rw [h] at hmem
      exact absurd hmem (by decide)

/-- Without the quorum (only `c`, 2 of 10, reported) the epoch passes and prices stay. -/
example : (match oracleEndBlock exHub { priceClaims := [("c", exPs 10)], priceVotes := ["c"], prices := [("eth", 7)] } 66 99 100 with
    | .ok o' => o'.prices == [("eth", 7)] && o'.epoch == 2 && o'.priceVotes == [] && o'.priceClaims == []
    | _ => false) = true := by decide

example : (match oracleEndBlock { exHub with height := 6 } exO 66 99 100 with
    | .ok o' => o'.epoch == 1 && o'.priceVotes == ["a", "b"] | _ => false) = true := by decide

example : computeHolders [("a", 32767), ("b", 19660), ("c", 13107)] ["a", "c", "b"]
    [("a", [("0xa", 1)]), ("b", [("0xa", 1)]), ("c", [("0xa", 2)])] = some [("0xa", 1)] := by decide

/-- `a` alone (32767 ≤ 43690) is not enough. -/
example : computeHolders [("a", 32767), ("b", 19660), ("c", 13107)] ["a", "c", "b"]
    [("a", [("0xa", 1)]), ("b", [("0xa", 3)]), ("c", [("0xa", 2)])] = none := by decide

example : (match oracleEndBlock exHub
      { holderClaims := [("a", [("0xa", 1)]), ("b", [("0xa", 1)])], holderVotes := ["a", "b"] } 66 99 100 with
    | .ok o' => o'.holders == [("0xa", 1)] && o'.holderVotes == [] && o'.epoch == 2
    | _ => false) = true := by decide

example : sumNats ([5, 3].map fun p => p * 65535 / 10) > 43690 ∧ 3 * sumNats [5, 3] > 2 * 10 := by decide

end Mhub2.C18
