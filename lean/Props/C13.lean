/-
  C13 — Batches are invalidated only when they can no longer execute.
  Property theorems only; helper lemmas live in Lemmas/Ledger.lean.

  `Hub.LedgerInv` is the ledger invariant of C04 (ids of one chain pairwise distinct, batch nonces
  of one chain pairwise distinct and bounded by the counters); `Hub.Bounded` says the id and
  batch-nonce counters fit in a `uint64`, as they do in the implementation (the store keys encode
  them in 8 bytes, so without the bound two batches could share a key).
-/
import Mhub2.Step
import Mhub2.Generated.Facts
import Lemmas.Ledger
namespace Mhub2.C13
open Mhub2

/-- Begin block cancels a batch only if its timeout is below the last observed external height of its
    chain, and every transfer of a batch cancelled that way is back in the pool. -/
theorem timeout_cancel_sound {h h' : Hub} {c : String} (hi : h.LedgerInv) (hb : h.Bounded)
    (hok : h.cleanupTimedOutBatches c = .ok h') {b : Batch} (hbm : b ∈ (h.chain c).batches)
    (hnb : b ∉ (h'.chain c).batches) :
    b.timeout < (h.chain c).obsExtHeight ∧
    (∀ t ∈ b.txs, t ∈ (h'.chain c).pool) ∧
    (∀ t ∈ b.txs, t.id ∈ (h'.chain c).pool.map (·.id)) := by
  obtain ⟨hev, _⟩ := cleanup_evo hi hb hok
  obtain ⟨h1, h2⟩ := hev.removed b hbm hnb
  exact ⟨h1, h2, fun t ht => List.mem_map.mpr ⟨t, h2 t ht, rfl⟩⟩

theorem timeout_cancel_complete {h h' : Hub} {c : String} (hi : h.LedgerInv) (hb : h.Bounded)
    (hok : h.cleanupTimedOutBatches c = .ok h') :
    (∀ b ∈ (h.chain c).batches, b.timeout < (h.chain c).obsExtHeight → b ∉ (h'.chain c).batches) ∧
    (∀ b ∈ (h'.chain c).batches, b ∈ (h.chain c).batches) ∧
    (∀ s ∈ (h.chain c).pool, s ∈ (h'.chain c).pool) ∧
    (∀ c', c ≠ c' → h'.chain c' = h.chain c') ∧
    (h'.chain c).ids.Perm (h.chain c).ids ∧ h'.LedgerInv := by
  obtain ⟨hev, hrm⟩ := cleanup_evo hi hb hok
  exact ⟨hrm, fun b hb' => hev.bsub.subset hb', hev.poolKeep, hev.only,
    (hev.keeps c).ids_perm_same (Hub.ledgerInv_iff.mp hi c) (hev.bnd c) hev.ctr.1, hev.inv⟩

theorem begin_block_never_touches_minter_batches {h h' : Hub} (hi : h.LedgerInv) (hb : h'.Bounded)
    (hok : h.beginBlock = .ok h') :
    (∀ b ∈ (h.chain "minter").batches, b ∈ (h'.chain "minter").batches) ∧
    h'.chain "hub" = h.chain "hub" := by
  obtain ⟨hbk, hhub⟩ := beginBlock_bk hok
  exact ⟨hbk.2 hi hb, hhub⟩

theorem cancel_batch_minter_panics (h : Hub) (t : String) (n : Nat) :
    h.cancelBatch "minter" t n = .error (.panic "CANNOT CANCEL MINTER BATCH") := by
  simp [Hub.cancelBatch, panicM]

theorem cancel_batch_other_ok {h : Hub} {c t : String} {n : Nat} {b : Batch} (hc : c ≠ "minter")
    (hf : h.findBatch c t n = some b) : ∃ h', h.cancelBatch c t n = .ok h' := by
  have : (c == "minter") = false := by simpa using hc
  simp [Hub.cancelBatch, this, hf]

/-- `batchTxExecuted` removes from the batch store of its chain exactly the executed batch and —
    unless the chain is "minter" — the batches of the same token with a smaller nonce (which the
    contract can no longer execute: `state_lastBatchNonces[token] < _batchNonce` fails for them).
    The transfers of those older batches are back in the pool, the transfers of the executed batch
    are nowhere on the chain, and nothing else leaves the pool or enters the batch store. -/
theorem executed_removes_exactly {h h' : Hub} {c tok tx payer : String} {n : Nat} {fp : Int} {b : Batch}
    (hi : h.LedgerInv) (hb : h'.Bounded)
    (hok : h.batchExecuted c tok n tx fp payer = .ok h') (hfb : h.findBatch c tok n = some b) :
    (∀ o ∈ (h.chain c).batches, o ∉ (h'.chain c).batches ↔
      (o = b ∨ (c ≠ "minter" ∧ o.extToken = b.extToken ∧ o.nonce < b.nonce))) ∧
    (∀ o ∈ (h'.chain c).batches, o ∈ (h.chain c).batches) ∧
    (∀ o ∈ (h.chain c).batches, c ≠ "minter" → o.extToken = b.extToken → o.nonce < b.nonce →
      ∀ t ∈ o.txs, t ∈ (h'.chain c).pool ∧ t.id ∈ (h'.chain c).pool.map (·.id)) ∧
    (∀ s ∈ (h.chain c).pool, s ∈ (h'.chain c).pool) ∧
    (∀ t ∈ b.txs, t.id ∉ (h'.chain c).ids) := by
  obtain ⟨h1, h2, h3, h4, h5⟩ := batchExecuted_exact hi hb hok hfb
  exact ⟨h1, h2, fun o ho hc he hn t ht =>
    ⟨h3 o ho hc he hn t ht, List.mem_map.mpr ⟨t, h3 o ho hc he hn t ht, rfl⟩⟩, h4, h5⟩

theorem executed_unknown_batch_noop {h h' : Hub} {c tok tx payer : String} {n : Nat} {fp : Int}
    (hok : h.batchExecuted c tok n tx fp payer = .ok h') (hfb : h.findBatch c tok n = none) : h' = h :=
  batchExecuted_none hok hfb

theorem executed_other_chains {h h' : Hub} {c tok tx payer : String} {n : Nat} {fp : Int}
    (hok : h.batchExecuted c tok n tx fp payer = .ok h') (c' : String) (h1 : c ≠ c') (h2 : "minter" ≠ c') :
    h'.chain c' = h.chain c' := by
  rcases batchExecuted_decomp hok with ⟨_, he⟩ | ⟨b, v, _, hv, hm⟩
  · rw [he]
  · rw [hm.only c' h2, chain_setChain_ne _ _ h1, bexCancelOlder_only hv c' h1]

/-! Bridge lemmas: the source expressions the model was written from. -/
theorem fact_batch_timeout_cond : Generated.batch_timeout_cond = "btx.Timeout < externalHeight" := rfl
theorem fact_batch_timeout_height_src : Generated.batch_timeout_height_src =
    "k.GetLastObservedExternalBlockHeight(ctx, chainId)" := rfl
theorem fact_executed_cancel_cond : Generated.executed_cancel_cond =
    "(btx.BatchNonce < batchTx.BatchNonce) && (btx.ExternalTokenId == batchTx.ExternalTokenId)" := rfl
theorem fact_executed_minter_guard : Generated.executed_minter_guard = "chainId != \"minter\"" := rfl
theorem fact_cancel_batch_conds : Generated.cancel_batch_conds = "chainId == \"minter\"" := rfl
theorem fact_begin_conds : Generated.begin_conds = "chainId == \"hub\" | chainId != \"minter\"" := rfl
theorem fact_begin_order : Generated.begin_order =
    "cleanupTimedOutBatchTxs,cleanupTimedOutContractCallTxs,createSignerSetTxs,createBatchTxs,pruneSignerSetTxs" := rfl


/-! ### Non-vacuity -/

def exSte (id : Nat) (tx : String) : Ste :=
  { id := id, sender := "a", recipient := "r", tokenId := 1, extToken := "T", amount := 1, fee := 0, comm := 0,
    chain := "e", txHash := tx, createdAt := 0, refundAddr := "a", refundChain := "hub" }
/-- Two batches of token "T": nonce 1 times out at external height 5, nonce 2 at 50; height 10 observed. -/
def exChain : ChainSt :=
  { batches := [⟨1, 5, 1, 1, "T", [exSte 1 "x"]⟩, ⟨2, 50, 1, 2, "T", [exSte 2 "y"]⟩],
    obsExtHeight := 10, lastSteId := 2, lastBatchNonce := 2 }
def exHub : Hub := { chains := ["e"], cs := [("e", exChain)], tokens := [⟨1, "hub", "e", "T", 18, 0⟩] }

/-- The clean-up cancels batch 1 only and its transfer is back in the pool. -/
example : (match exHub.cleanupTimedOutBatches "e" with
    | .ok h' => ((h'.chain "e").batches.map Batch.nonce == [2]) && ((h'.chain "e").pool.map Ste.id == [1])
    | _ => false) = true := by decide +kernel
/-- Executing batch 2 removes it and cancels the older batch 1, whose transfer is back in the pool. -/
example : (match exHub.batchExecuted "e" "T" 2 "tx" 0 "p" with
    | .ok h' => ((h'.chain "e").batches.isEmpty) && ((h'.chain "e").pool.map Ste.id == [1])
    | _ => false) = true := by decide +kernel
example : exHub.Bounded := Hub.bounded_of_all (by decide +kernel)
example : exHub.LedgerInv := Hub.ledgerInv_of_all (by decide +kernel)

/-- Tie to the code: a genesis import sets the observed external height (the only height batch timeouts are compared with) from the
    exported field and from nothing else — not from vote records, claims or the wall clock. -/
theorem fact_genesis_import_counters : Generated.genesis_import_counters =
    "k.SetLastObservedExternalBlockHeight(ctx, chainId, externalState.LatestBlockHeight.ExternalHeight) | k.setLastObservedEventNonce(ctx, chainId, externalState.LastObservedEventNonce) | k.setLastOutgoingBatchNonce(ctx, chainId, externalState.LastOutgoingBatchTxNonce) | k.setOutgoingSequence(ctx, chainId, externalState.Sequence)" := rfl

end Mhub2.C13
