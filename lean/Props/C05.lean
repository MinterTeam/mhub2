/-
  C05 — Block processing never panics or deadlocks (partial: goroutine scheduling is not modelled;
  the lock protocol and the panic sources are).  Here: a trace that never nests iterators never
  blocks on the store lock, the two schedules of `refundExpiredTxs`, and the call-graph facts.
  Panic freedom of the model's begin/end block, and that the schedule of /repo's
  `refundExpiredTxs` never nests iterators, are in Props/C05Panic.lean.
-/
import Mhub2.LockModel
import Mhub2.Generated.Facts
namespace Mhub2.C05
open Mhub2.Lock

/-- A trace that never opens an iterator while another is open never blocks, whatever the number of
    writes and whatever the sizes involved. -/
theorem no_nested_iterator_no_deadlock (s : St) (ops : List SOp) (hd : Disciplined s ops) :
    (run s ops).isSome = true := by
  induction ops generalizing s with
  | nil => simp [run]
  | cons op ops ih =>
    unfold run
    unfold Disciplined at hd
    cases hstep : stepS s op with
    | none =>
      -- only `openIter` can block, and it needs a read-locked open iterator
      cases op with
      | write => simp [stepS] at hstep
      | next i => simp [stepS] at hstep
      | close i => simp [stepS] at hstep
      | openIter =>
        have hnil := hd.1 rfl
        simp [stepS, St.readLocked, hnil] at hstep
    | some s' =>
      simp only
      have := hd.2
      rw [hstep] at this
      exact ih s' this

/-- The schedule of `refundExpiredTxs` in /repo since its commit 4eb9a94 — iterate the pool to the
    end, close, then one lookup iterator per refund — for `writes` dirty keys, `poolSize` pool
    entries and `refunds` refunds (`refundTrace_disciplined`: it never nests iterators). -/
def refundTrace (writes poolSize refunds : Nat) : List SOp :=
  List.replicate writes .write ++ [.openIter] ++ List.replicate poolSize (.next 0) ++ [.close 0] ++
    (List.range refunds).flatMap fun k => [.openIter, .close (k + 1), .write]

/-- The schedule before that commit: the refund, and with it a second iterator, runs inside the
    pool iteration.  With 80 dirty pool keys it blocks at the second refund:
    the first refund's delete is a dirty key and the outer producer still holds the read lock. -/
def nestedTrace (writes : Nat) : List SOp :=
  List.replicate writes .write ++ [.openIter, .next 0, .openIter, .close 1, .write, .next 0, .openIter]

theorem nested_refund_deadlocks : run {} (nestedTrace 80) = none := by decide +kernel
theorem nested_refund_small_pool_ok : (run {} (nestedTrace 60)).isSome = true := by decide +kernel

/-- The present schedule with the same 80 dirty keys runs to completion. -/
example : (run {} (refundTrace 80 80 3)).isSome = true := by decide +kernel

/-- Bridge lemmas: no iterator callback and no iterator loop of the bridge module reaches a function
    that opens another iterator; handler panics are confined; end block tallies then refunds. -/
theorem fact_lock_nested_iterators : Generated.lock_nested_iterators = "" := rfl
theorem fact_lock_nested_iterator_loops : Generated.lock_nested_iterator_loops = "" := rfl
theorem fact_process_has_recover : Generated.process_has_recover = "true" := rfl
theorem fact_process_uses_cache_ctx : Generated.process_uses_cache_ctx = "true" := rfl
theorem fact_end_order : Generated.end_order = "eventVoteRecordTally,refundExpiredTxs" := rfl
theorem fact_begin_order : Generated.begin_order =
    "cleanupTimedOutBatchTxs,cleanupTimedOutContractCallTxs,createSignerSetTxs,createBatchTxs,pruneSignerSetTxs" := rfl
theorem fact_det_goroutines : Generated.det_goroutines = "" := rfl

end Mhub2.C05
