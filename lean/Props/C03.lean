/-
  C03 — Events are applied once, in nonce order, and a validator votes once per nonce.

  `Reach c`  : `c` is the vote bookkeeping after some sequence of claims and tallies from genesis.
  `ReachB c` : the same, every claimed event nonce being `< 2^64` (`uint64` in the implementation).
  The bound is needed only where a statement depends on `be8` (the 8-byte store-key encoding of the
  nonce) being injective: in the unbounded model two nonces that differ by a multiple of 2^64 share
  a store key, so after 2^64 consecutive claims a validator would be appended a second time to its
  first record.
-/
import Mhub2.Votes
import Mhub2.Step
import Mhub2.Generated.Facts
import Lemmas.Votes
namespace Mhub2.C03
open Mhub2

theorem accepted_le_last {c : ChainSt} (h : Reach c) :
    ∀ r ∈ c.records, r.accepted = true → r.nonce ≤ c.lastObserved :=
  h.inv.acc_le

/-- At most one record is accepted per nonce (whatever the claim hashes). -/
theorem one_accepted_per_nonce {c : ChainSt} (h : Reach c) :
    ∀ r1 ∈ c.records, ∀ r2 ∈ c.records, r1.accepted = true → r2.accepted = true →
      r1.nonce = r2.nonce → r1 = r2 :=
  h.inv.acc_uniq

/-- One tally applies records at exactly the next nonces `last+1, last+2, …` and leaves the
    counter at the last one applied.  Holds in every state. -/
theorem tally_applies_consecutive (c : ChainSt) (p : String → Nat) (req : Int) (ht : Nat) :
    let res := c.tallyPure p req ht
    res.2.map (·.nonce) = List.range' (c.lastObserved + 1) res.2.length ∧
    res.1.lastObserved = c.lastObserved + res.2.length := by
  exact ⟨(tallyPure_consec c p req ht).1, (tallyPure_consec c p req ht).2.1⟩

/-- Over a whole run from genesis the applied events have nonces `1, 2, …, lastObserved`, in that
    order. -/
theorem applied_history_consecutive (ops : List VOp) :
    (vapplied ops).map (·.nonce) = List.range' 1 (vrun ops).lastObserved :=
  vapplied_consec ops

theorem applied_nodup (ops : List VOp) : ((vapplied ops).map (·.nonce)).Nodup := by
  rw [applied_history_consecutive]; exact List.nodup_range' 1

theorem applied_count (ops : List VOp) : (vapplied ops).length = (vrun ops).lastObserved := by
  have := congrArg List.length (applied_history_consecutive ops)
  simpa using this

/-- A validator with a stored last nonce `n` can only claim `n + 1`, and the claim moves its
    stored nonce to `n + 1`.  (Stored nonces are never 0 because claims pass `validBasic`; the
    contiguity check is skipped when the last nonce is 0.) -/
theorem validator_claims_consecutive {c c' : ChainSt} {v : String} {n : Nat} {ev : Event} {hash : Bytes}
    (h : Reach c) (hget : alGet c.lastNonceBy v = some n) (hok : c.recordVote ev hash v = .ok c') :
    ev.nonce = n + 1 ∧ alGet c'.lastNonceBy v = some (n + 1) := by
  obtain ⟨hcont, hc'⟩ := recordVote_ok hok
  have hpos := h.inv.stored_pos v n hget
  rw [lastNonceOf_some hget] at hcont
  have hn : ev.nonce = n + 1 := by omega
  refine ⟨hn, ?_⟩
  rw [hc']
  show alGet (alSet c.lastNonceBy v ev.nonce) v = some (n + 1)
  rw [alGet_alSet_same, hn]

/-- A validator appears at most once in a record, and in at most one record per nonce.
    Needs `uint64` nonces (`ReachB`), see the header. -/
theorem one_vote_per_validator_per_nonce {c : ChainSt} {v : String} (h : ReachB c) :
    (∀ r ∈ c.records, r.votes.Nodup) ∧
    (∀ r1 ∈ c.records, ∀ r2 ∈ c.records, r1.nonce = r2.nonce → v ∈ r1.votes → v ∈ r2.votes → r1 = r2) :=
  ⟨h.inv.nodup, fun r1 h1 r2 h2 hn => h.inv.one_vote r1 h1 r2 h2 hn v⟩

theorem votes_below_stored {c : ChainSt} (h : ReachB c) :
    ∀ r ∈ c.records, ∀ v ∈ r.votes, ∃ n, alGet c.lastNonceBy v = some n ∧ r.nonce ≤ n :=
  h.inv.voted_le

/-- The store holds at most one record per (nonce, claim hash): two such records share a store key. -/
theorem one_record_per_claim {c : ChainSt} (h : ReachB c) :
    ∀ r1 ∈ c.records, ∀ r2 ∈ c.records, r1.nonce = r2.nonce → r1.hash = r2.hash → r1 = r2 := by
  intro r1 h1 r2 h2 hn hh
  exact KeysDistinct.eq_of_mem recKey (KeySorted.distinct recKey h.inv.base.sorted) h1 h2
    (by unfold recKey; rw [hn, hh])

/-- The "attempting to process observed external event" panic of `TryEventVoteRecord` (a record
    at `lastObserved + 1` that is already accepted) is unreachable. -/
theorem try_panic_unreachable {c : ChainSt} (h : Reach c) :
    ¬ ∃ r ∈ c.records, r.nonce = c.lastObserved + 1 ∧ r.accepted = true := by
  rintro ⟨r, hr, hn, ha⟩
  have := h.inv.acc_le r hr ha
  omega

/-- On the vote bookkeeping of the chain, the hub's end-block tally (handler included, its
    writes kept or rolled back) is exactly `tallyPure` run with the power table, required power and
    height the hub had when the tally started.  So `tally_applies_consecutive` and C02 speak about
    `Hub.tally`. -/
theorem hub_tally_refines_pure {h h' : Hub} {mf : Bool} {chain : String}
    (hok : h.tally mf chain = .ok h') :
    (h'.chain chain).lastObserved =
      ((h.chain chain).tallyPure h.lastPower h.requiredPower h.height).1.lastObserved ∧
    (h'.chain chain).records =
      ((h.chain chain).tallyPure h.lastPower h.requiredPower h.height).1.records :=
  Mhub2.hub_tally_refines_pure hok

/-- That panic is the only error of `Hub.tally`, so it succeeds on a chain state that the vote
    machine reaches. -/
theorem hub_tally_never_panics {h : Hub} (mf : Bool) (chain : String) (hr : Reach (h.chain chain)) :
    ∃ h', h.tally mf chain = .ok h' :=
  tally_fold_total mf chain _ h hr.inv.acc_le

/-- A change of the validator set — validators bonding, leaving, being removed and created again under the same operator
    address, changing power — writes no bridge state at all: every chain's vote records, the per-validator last voted nonces
    and the observed nonce are what they were.  (So the statements above, which hold for arbitrary power functions, cover
    histories with staking changes; the real staking hooks are empty: `fact_staking_hooks`.) -/
theorem staking_change_keeps_vote_state (h : Hub) (vs : List Validator) (c : String) :
    (apply h (.staking vs)).1.chain c = h.chain c := rfl

theorem fact_staking_hooks : Generated.staking_hooks =
    "AfterDelegationModified{} | AfterValidatorBeginUnbonding{} | AfterValidatorBonded{} | AfterValidatorCreated{} | AfterValidatorRemoved{} | BeforeDelegationCreated{} | BeforeDelegationRemoved{} | BeforeDelegationSharesModified{} | BeforeValidatorModified{} | BeforeValidatorSlashed{}" := rfl

/-- Bridge lemmas: the source expressions the model was written from. -/
theorem fact_tally_gate : Generated.tally_gate =
    "nonce == uint64(k.GetLastObservedEventNonce(ctx, chainId))+1" := rfl
theorem fact_record_contiguity : Generated.record_contiguity =
    "event.GetEventNonce() != expectedNonce && lastEventNonce != 0" := rfl
theorem fact_record_vote_append : Generated.record_vote_append =
    "append(eventVoteRecord.Votes, val.String())" := rfl
theorem fact_try_write_order : Generated.try_write_order =
    "setLastObservedEventNonce,SetLastObservedExternalBlockHeight,setExternalEventVoteRecord,processExternalEvent" := rfl
theorem fact_try_accepted_guard : Generated.try_accepted_guard = "!eventVoteRecord.Accepted" := rfl

/-! Non-vacuity: two validators claim events 1 and 2, two tallies apply them in order. -/
def exPower (v : String) : Nat := if v == "a" then 5 else if v == "b" then 3 else 2
def exOps : List VOp :=
  [.vote "a" (.contractCall 1 [] 0 10) [1], .vote "b" (.contractCall 1 [] 0 10) [1],
   .vote "a" (.contractCall 2 [] 0 11) [2], .tally exPower 7 5,
   .vote "b" (.contractCall 2 [] 0 11) [2], .tally exPower 7 6]

example : ((vrun exOps).lastObserved == 2) = true := by decide
example : ((vapplied exOps).map (·.nonce) == [1, 2]) = true := by decide
example : ((vrun exOps).records.map (fun r => (r.nonce, r.votes, r.accepted))
    == [(1, ["a", "b"], true), (2, ["a", "b"], true)]) = true := by decide
/-- A claim by a validator with a stored nonce succeeds only at the next nonce. -/
example : (match (vrun exOps).recordVote (.contractCall 3 [] 0 12) [3] "a" with
    | .ok c => alGet c.lastNonceBy "a" == some 3 | _ => false) = true := by decide
example : (match (vrun exOps).recordVote (.contractCall 5 [] 0 12) [3] "a" with
    | .ok _ => false | _ => true) = true := by decide
example : OpsBounded exOps := by
  intro op h
  simp only [exOps, List.mem_cons, List.not_mem_nil, or_false] at h
  rcases h with h | h | h | h | h | h <;> subst h <;> simp [OpBounded, Event.nonce]

end Mhub2.C03
