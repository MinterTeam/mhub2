/-
  C04 — An outgoing transfer is in exactly one place at any time.
  Property theorems only; helper lemmas live in Lemmas/Ledger.lean.

  Vocabulary (all defined in Lemmas/Ledger.lean):
  * `ChainSt.ids c`        — ids of the pool entries followed by the ids of all batched transfers;
  * `Hub.LedgerInv h`      — for every chain: `ids` is duplicate-free (so an id is in the pool or in
                              exactly one batch, never both, never twice), every id lies in
                              `1..lastSteId`, batch nonces are pairwise distinct and `≤ lastBatchNonce`;
  * `Hub.Bounded h`        — the id and batch-nonce counters of every chain are `< 2^64`.
  The bound is an explicit hypothesis on the state *after* the operation (counters only grow, so it
  covers the state before as well).  It is needed because the stores are keyed by byte strings that
  encode ids and nonces in 8 bytes and `insertByKey` replaces an entry with an equal key: with a
  counter at `2^64` a fresh entry would overwrite the entry whose id is `2^64` smaller.  The
  implementation's counters are `uint64`, so the hypothesis holds there by typing.
-/
import Mhub2.Step
import Mhub2.Generated.Facts
import Lemmas.Ledger
namespace Mhub2.C04
open Mhub2

/-! ### The keeper functions one by one -/

theorem create_ste_effect {h h' : Hub} {chain sender rcp denom tx rc ra : String} {a f cm : Int} {id : Nat}
    (hok : h.createSte chain sender rcp denom a f cm tx rc ra = .ok (h', id)) :
    id = (h.chain chain).lastSteId + 1 ∧ (h'.chain chain).lastSteId = id ∧
    (∀ c, chain ≠ c → h'.chain c = h.chain c) ∧
    (h.LedgerInv → h'.Bounded → (h'.chain chain).ids.Perm (id :: (h.chain chain).ids)) := by
  obtain ⟨ste, hid, hid2, _, _, _, e3, _, e5⟩ := createSte_eff hok
  refine ⟨by rw [hid2, hid], by rw [e3, hid2], e5, fun hi hb => ?_⟩
  have := (createSte_keeps hok chain).ids_perm (Hub.ledgerInv_iff.mp hi chain) (hb chain)
  rw [e3, hid] at this
  simpa [hid2, hid] using this

theorem create_ste_preserves {h h' : Hub} {chain sender rcp denom tx rc ra : String} {a f cm : Int} {id : Nat}
    (hok : h.createSte chain sender rcp denom a f cm tx rc ra = .ok (h', id))
    (hi : h.LedgerInv) (hb : h'.Bounded) : h'.LedgerInv :=
  (createSte_keeps hok).step.inv hi hb

/-- A successful cancel removes exactly the given id from the pool of its chain; on every chain the
    ids afterwards (plus, on the cancelled transfer's chain, the cancelled id) are the ids before
    plus at most one freshly issued id (the re-routed refund, on the refund chain). -/
theorem cancel_ste_effect {h h' : Hub} {chain sender : String} {id : Nat}
    (hi : h.LedgerInv) (hb : h'.Bounded) (hok : h.cancelSte chain id sender = (h', none)) :
    id ∈ (h.chain chain).pool.map (·.id) ∧ id ∉ (h'.chain chain).ids ∧
    ∀ c, ∃ fresh : List Nat, (fresh = [] ∨ fresh = [(h.chain c).lastSteId + 1]) ∧
      (if chain = c then id :: (h'.chain c).ids else (h'.chain c).ids).Perm (fresh ++ (h.chain c).ids) := by
  obtain ⟨h1, h2, h3⟩ := cancelSte_effect hi hb hok
  refine ⟨h1, h2, fun c => ⟨_, ?_, (h3 c).2.2⟩⟩
  obtain e | e : (h'.chain c).lastSteId - (h.chain c).lastSteId = 0 ∨
      (h'.chain c).lastSteId - (h.chain c).lastSteId = 1 := by
    have := (h3 c).1
    have := (h3 c).2.1
    omega
  · rw [e]; exact .inl rfl
  · rw [e]; exact .inr rfl

/-- Whatever `cancelSendToExternal` returns (success, or a failure part-way as on the expiry path),
    the state it returns satisfies the invariant. -/
theorem cancel_ste_preserves (h : Hub) (chain sender : String) (id : Nat)
    (hi : h.LedgerInv) (hb : (h.cancelSte chain id sender).1.Bounded) :
    (h.cancelSte chain id sender).1.LedgerInv :=
  (cancelSte_step h chain id sender).inv hi hb

theorem cancel_msg_preserves {h h' : Hub} {sender chain : String} {id : Nat}
    (hok : h.cancelMsg sender chain id = .ok h') (hi : h.LedgerInv) (hb : h'.Bounded) : h'.LedgerInv :=
  (Hub.Step.of_moves (cancelMsg_moves hok)).inv hi hb

theorem build_batch_perm (h : Hub) (chain tok : String) (n : Nat) (hi : h.LedgerInv)
    (hb : (h.buildBatch chain tok n).1.Bounded) :
    (∀ c, ((h.buildBatch chain tok n).1.chain c).ids.Perm (h.chain c).ids) ∧
    (∀ c, chain ≠ c → (h.buildBatch chain tok n).1.chain c = h.chain c) ∧
    (∀ b, (h.buildBatch chain tok n).2 = some b →
      b ∈ ((h.buildBatch chain tok n).1.chain chain).batches ∧ (∀ t ∈ b.txs, t ∈ (h.chain chain).pool) ∧
      (∀ t ∈ b.txs, t ∉ ((h.buildBatch chain tok n).1.chain chain).pool)) ∧
    (h.buildBatch chain tok n).1.LedgerInv := by
  have hk := buildBatch_keeps h chain tok n
  have hi' := hk.step.inv hi hb
  refine ⟨fun c => ?_, buildBatch_only h chain tok n, fun b hbb => ?_, hi'⟩
  · apply (hk c).ids_perm_same (Hub.ledgerInv_iff.mp hi c) (hb c)
    by_cases hc : chain = c
    · subst hc
      rcases buildBatch_eff h chain tok n with ⟨_, he⟩ | ⟨_, _, _, _, _, _, _, hl, _⟩
      · rw [he]
      · exact hl
    · rw [buildBatch_only h chain tok n c hc]
  · rcases buildBatch_eff h chain tok n with ⟨hn, _⟩ | ⟨b', hb', htx, _, _, hbs, _, _, _⟩
    · rw [hn] at hbb; cases hbb
    · rw [hb'] at hbb; injection hbb with hbb; subst hbb
      have hmem : b' ∈ ((h.buildBatch chain tok n).1.chain chain).batches := by
        rw [hbs]; exact mem_insertByKey _ _ _
      refine ⟨hmem, fun t ht => (mem_selectForBatch (htx ▸ ht)).1, fun t ht hp => ?_⟩
      have hnd := (Hub.ledgerInv_iff.mp hi' chain).entries_nodup
      unfold ChainSt.entries at hnd
      exact (List.nodup_append.mp hnd).2.2 t hp t (List.mem_flatMap.mpr ⟨b', hmem, ht⟩) rfl

theorem cancel_batch_perm {h h' : Hub} {chain tok : String} {n : Nat}
    (hok : h.cancelBatch chain tok n = .ok h') (hi : h.LedgerInv) (hb : h'.Bounded) :
    (∀ c, (h'.chain c).ids.Perm (h.chain c).ids) ∧ (∀ c, chain ≠ c → h'.chain c = h.chain c) ∧
    (∃ b, h.findBatch chain tok n = some b ∧ b ∈ (h.chain chain).batches ∧
      b ∉ (h'.chain chain).batches ∧ ∀ t ∈ b.txs, t ∈ (h'.chain chain).pool) ∧
    h'.LedgerInv := by
  have hk := cancelBatch_keeps hok
  have hbh : h.Bounded := hb.mono hk.step
  obtain ⟨hev, hrm⟩ := (CancelEvo.refl chain (fun _ => True) hi hbh).cancel hok (fun _ _ _ => trivial)
  obtain ⟨b, hfb, _, _, e3, _, _, e6⟩ := cancelBatch_eff hok
  obtain ⟨hbm, hbk⟩ := findBatch_some hfb
  refine ⟨fun c => ?_, cancelBatch_only hok, ⟨b, hfb, hbm, hrm b hbm hbk, ?_⟩, hev.inv⟩
  · apply (hk c).ids_perm_same (Hub.ledgerInv_iff.mp hi c) (hb c)
    by_cases hc : chain = c
    · subst hc; exact e3
    · rw [e6 c hc]
  · exact (hev.removed b hbm (hrm b hbm hbk)).2

theorem batch_executed_preserves {h h' : Hub} {chain tok tx payer : String} {n : Nat} {fp : Int}
    (hok : h.batchExecuted chain tok n tx fp payer = .ok h') (hi : h.LedgerInv) (hb : h'.Bounded) :
    h'.LedgerInv ∧
    (∀ c id, id ∈ (h'.chain c).ids → id ∈ (h.chain c).ids ∨
      ((h.chain c).lastSteId < id ∧ id ≤ (h'.chain c).lastSteId)) :=
  ⟨(batchExecuted_step hok).inv hi hb, fun c id hid => (batchExecuted_step hok c).sub id hid⟩

/-- `batchTxExecuted` for a batch `b` that is in the store: the transfers of `b` are nowhere on the
    chain afterwards, every other transfer of the chain is still somewhere on it (those of older
    cancelled batches in the pool), every chain other than the batch's and "minter" is untouched,
    and when the batch's chain is not "minter": no id is added on the batch's chain, and "minter"
    gains exactly the ids issued there (commission and fee-refund transfers). -/
theorem batch_executed_effect {h h' : Hub} {chain tok tx payer : String} {n : Nat} {fp : Int} {b : Batch}
    (hi : h.LedgerInv) (hb : h'.Bounded)
    (hok : h.batchExecuted chain tok n tx fp payer = .ok h') (hfb : h.findBatch chain tok n = some b) :
    (∀ t ∈ b.txs, t.id ∉ (h'.chain chain).ids) ∧
    (∀ s ∈ (h.chain chain).entries, s ∉ b.txs → s ∈ (h'.chain chain).entries) ∧
    (chain ≠ "minter" →
      (∀ id ∈ (h'.chain chain).ids, id ∈ (h.chain chain).ids) ∧
      (h'.chain "minter").ids.Perm
        (List.range' ((h.chain "minter").lastSteId + 1)
          ((h'.chain "minter").lastSteId - (h.chain "minter").lastSteId) ++ (h.chain "minter").ids)) := by
  obtain ⟨h1, _, h3, h4, h5⟩ := batchExecuted_exact hi hb hok hfb
  refine ⟨h5, fun s hs hnb => ?_, fun hne => ?_⟩
  · rcases ChainSt.mem_entries.mp hs with hp | ⟨o, ho, hso⟩
    · exact ChainSt.mem_entries.mpr (.inl (h4 s hp))
    · by_cases hin : o ∈ (h'.chain chain).batches
      · exact ChainSt.mem_entries.mpr (.inr ⟨o, hin, hso⟩)
      · rcases (h1 o ho).mp hin with he | ⟨hc, he, hn⟩
        · subst he; exact absurd hso hnb
        · exact ChainSt.mem_entries.mpr (.inl (h3 o ho hc he hn s hso))
  · obtain ⟨hl, hk⟩ := batchExecuted_frame hok hne
    refine ⟨fun id hid => ?_, hk.ids_perm (Hub.ledgerInv_iff.mp hi "minter") (hb "minter")⟩
    rcases (batchExecuted_step hok chain).sub id hid with h6 | h6
    · exact h6
    · omega

theorem handle_preserves {h h' : Hub} {mf : Bool} {chain : String} {ev : Event}
    (hok : h.handle mf chain ev = .ok h') (hi : h.LedgerInv) (hb : h'.Bounded) : h'.LedgerInv :=
  (Hub.Step.of_moves (handle_moves hok)).inv hi hb

theorem tally_preserves {h h' : Hub} {mf : Bool} {chain : String}
    (hok : h.tally mf chain = .ok h') (hi : h.LedgerInv) (hb : h'.Bounded) : h'.LedgerInv :=
  (tally_rel Hub.Step.refl Hub.Step.trans (fun e => .of_moves (handle_moves e))
    (fun a r => (markObserved_same a chain r _).keeps.step) hok).inv hi hb

theorem refund_expired_preserves {h h' : Hub} {chain : String}
    (hok : h.refundExpired chain = .ok h') (hi : h.LedgerInv) (hb : h'.Bounded) : h'.LedgerInv :=
  (Hub.Step.of_moves (refundExpired_moves hok)).inv hi hb

theorem begin_block_preserves {h h' : Hub} (hok : h.beginBlock = .ok h') (hi : h.LedgerInv) (hb : h'.Bounded) :
    h'.LedgerInv :=
  (beginBlock_bk hok).1.1.step.inv hi hb

theorem begin_block_perm {h h' : Hub} (hok : h.beginBlock = .ok h') (hi : h.LedgerInv) (hb : h'.Bounded) (c : String) :
    (h'.chain c).ids.Perm
      (List.range' ((h.chain c).lastSteId + 1) ((h'.chain c).lastSteId - (h.chain c).lastSteId) ++ (h.chain c).ids) :=
  ((beginBlock_bk hok).1.1 c).ids_perm (Hub.ledgerInv_iff.mp hi c) (hb c)

theorem end_block_preserves {h h' : Hub} {mf : Bool} (hok : h.endBlock mf = .ok h')
    (hi : h.LedgerInv) (hb : h'.Bounded) : h'.LedgerInv :=
  (endBlock_step hok).1.inv hi hb

/-! ### Every reachable state -/

theorem apply_preserves (h : Hub) (op : Op) (hq : h.Bounded → h.LedgerInv) :
    (apply h op).1.Bounded → (apply h op).1.LedgerInv := by
  intro hb
  by_cases hr : op = .reset
  · subst hr
    exact initialHub_inv
  · have hs := (apply_step h op hr).1
    exact hs.inv (hq (hb.mono hs)) hb

theorem ledger_inv_reachable (ops : List Op) : (runOps ops).Bounded → (runOps ops).LedgerInv :=
  foldl_rel (fun a b : Hub => (a.Bounded → a.LedgerInv) → b.Bounded → b.LedgerInv) (fun _ hq => hq)
    (fun h1 h2 hq => h2 (h1 hq)) ops (fun a op _ => apply_preserves a op) initialHub fun _ => initialHub_inv

theorem one_place (ops : List Op) (hb : (runOps ops).Bounded) (c : String) :
    ((runOps ops).chain c).ids.Nodup ∧
    ∀ id ∈ ((runOps ops).chain c).ids, 1 ≤ id ∧ id ≤ ((runOps ops).chain c).lastSteId :=
  ⟨(ledger_inv_reachable ops hb c).1, (ledger_inv_reachable ops hb c).2.1⟩

/-! ### Ids never come back, issued ids are live -/

/-- A transfer that left never comes back and ids are never reused: an id that has been issued and
    is nowhere on its chain stays nowhere, whatever the operation (`reset` restarts the history). -/
theorem no_reappearance (h : Hub) (op : Op) (hr : op ≠ .reset) (c : String) (id : Nat)
    (hle : id ≤ (h.chain c).lastSteId) (hn : id ∉ (h.chain c).ids) : id ∉ ((apply h op).1.chain c).ids := by
  intro hid
  rcases ((apply_step h op hr).1 c).sub id hid with h1 | h1
  · exact hn h1
  · omega

theorem counters_monotone (h : Hub) (op : Op) (hr : op ≠ .reset) (c : String) :
    (h.chain c).lastSteId ≤ ((apply h op).1.chain c).lastSteId ∧
    (h.chain c).lastBatchNonce ≤ ((apply h op).1.chain c).lastBatchNonce :=
  ⟨((apply_step h op hr).1 c).mono, ((apply_step h op hr).1 c).monoB⟩

/-- Every id issued by an operation is live right after it: each id in
    `(lastSteId before, lastSteId after]` is somewhere on its chain afterwards (`reset` restarts the
    history).  For `endBlock` this uses that a transfer created during the end block carries the
    current block time and therefore cannot be expired by the same end block. -/
theorem issued_ids_live (h : Hub) (op : Op) (hr : op ≠ .reset)
    (hi : h.LedgerInv) (hb : (apply h op).1.Bounded) (c : String) (id : Nat)
    (hlo : (h.chain c).lastSteId < id) (hhi : id ≤ ((apply h op).1.chain c).lastSteId) :
    id ∈ ((apply h op).1.chain c).ids := by
  rcases apply_cases h op with e | e | e
  · rw [e] at hhi; omega
  · exact absurd e hr
  generalize (apply h op).1 = h' at e hb hhi ⊢
  by_cases he : op = .endBlock
  · subst he
    cases e with
    | endBlock e1 =>
      obtain ⟨s, hs, h3, _⟩ := (endBlock_endEvo e1).live hi hb c id hlo hhi
      exact ChainSt.mem_ids.mpr ⟨s, ChainSt.mem_entries.mpr (.inl hs), h3⟩
  by_cases hc : ∃ s ch i, op = .cancel s ch i
  · obtain ⟨s, ch, i, rfl⟩ := hc
    cases e with
    | cancel e1 =>
      obtain ⟨hp, _, h3⟩ := cancelSte_effect hi hb (cancelMsg_ok e1).2.2
      have hr : id ∈ List.range' ((h.chain c).lastSteId + 1) ((h'.chain c).lastSteId - (h.chain c).lastSteId) :=
        List.mem_range'_1.mpr ⟨by omega, by omega⟩
      have h1 := (h3 c).2.2.symm.subset (List.mem_append_left _ hr)
      by_cases hcc : ch = c
      · subst hcc
        rw [if_pos rfl] at h1
        rcases List.mem_cons.mp h1 with h2 | h2
        · -- the cancelled id had been issued before
          obtain ⟨st, hsm, hsid⟩ := List.mem_map.mp hp
          have := (Hub.ledgerInv_iff.mp hi ch).entry_le (ChainSt.mem_entries.mpr (.inl hsm))
          have : st.id = i := hsid
          omega
        · exact h2
      · rw [if_neg hcc] at h1; exact h1
  · exact ((e.keepsR (fun s ch i e => hc ⟨s, ch, i, e⟩) he).1 c).fresh (Hub.ledgerInv_iff.mp hi c) (hb c) id hlo hhi

/-! ### Only a cancel or the end of a block removes a transfer -/

/-- If an id was somewhere on its chain before an operation and is nowhere afterwards, the
    operation is a successful cancel of that very id on that chain, or it is `endBlock`
    (an executed batch or an expired transfer), or `reset`. -/
theorem removal_only_by_cancel_or_end_block (h : Hub) (op : Op) (hi : h.LedgerInv)
    (hb : (apply h op).1.Bounded) (c : String) (id : Nat)
    (hin : id ∈ (h.chain c).ids) (hout : id ∉ ((apply h op).1.chain c).ids) :
    (∃ sender, op = .cancel sender c id ∧ (apply h op).2 = "ok") ∨ op = .endBlock ∨ op = .reset := by
  by_cases hr : op = .reset
  · exact .inr (.inr hr)
  by_cases he : op = .endBlock
  · exact .inr (.inl he)
  by_cases hc : ∃ s ch i, op = .cancel s ch i
  · obtain ⟨s, ch, i, rfl⟩ := hc
    left
    rw [show apply h (.cancel s ch i) = outM (h.cancelMsg s ch i) h from rfl] at hb hout ⊢
    cases e1 : h.cancelMsg s ch i with
    | error e =>
      rw [(outM_err (old := h) e1).1] at hout
      exact absurd hin hout
    | ok h' =>
      rw [outM_ok e1] at hb hout
      obtain ⟨_, _, h3⟩ := cancelSte_effect hi hb (cancelMsg_ok e1).2.2
      have h1 := (h3 c).2.2.symm.subset (List.mem_append_right _ hin)
      by_cases hcc : ch = c
      · subst hcc
        rw [if_pos rfl] at h1
        rcases List.mem_cons.mp h1 with h2 | h2
        · exact ⟨s, by rw [h2], rfl⟩
        · exact absurd h2 hout
      · rw [if_neg hcc] at h1; exact absurd h1 hout
  · have hk := (apply_keepsR h op hr (fun s ch i e => hc ⟨s, ch, i, e⟩) he).1
    exact absurd ((hk c).keep_ids (Hub.ledgerInv_iff.mp hi c) (hb c) hin) hout

/-! ### "Refunded" is final -/

theorem refunded_final (h : Hub) (tx tx' : String) (st : Nat) (out : String)
    (hr : h.statusOf tx' = stRefunded) : (h.setStatus tx st out).statusOf tx' = stRefunded :=
  setStatus_rk h tx st out tx' hr

theorem refunded_final_apply (h : Hub) (op : Op) (hne : op ≠ .reset) (tx : String)
    (hr : h.statusOf tx = stRefunded) : (apply h op).1.statusOf tx = stRefunded :=
  (apply_step h op hne).2 tx hr

/-! ### Non-vacuity -/

/-- Two withdrawals batched together, a third one cancelled, then a block boundary. -/
def exOps : List Op := [.chains ["e", "minter"], .token ⟨1, "hub", "e", "T", 18, 0⟩, .fund "a" "hub" 100,
  .send "a" "e" "r" "hub" 10 1 "x", .send "a" "e" "r" "hub" 10 2 "y", .reqBatch "e" "hub",
  .send "a" "e" "r" "hub" 10 3 "z", .cancel "a" "e" 3, .block 2 0, .beginBlock, .endBlock]

/-- Before the cancel: id 3 in the pool, ids 2 and 1 in the batch. -/
example : ((((runOps (exOps.take 7)).chain "e").ids == [3, 2, 1]) &&
    (((runOps (exOps.take 7)).chain "e").pool.map (·.id) == [3])) = true := by decide +kernel
/-- At the end: the cancelled id is gone, the batched ones are where they were, the counter is 3. -/
example : ((((runOps exOps).chain "e").ids == [2, 1]) && (((runOps exOps).chain "e").pool.isEmpty) &&
    (((runOps exOps).chain "e").lastSteId == 3)) = true := by decide +kernel
example : (runOps exOps).LedgerInv :=
  ledger_inv_reachable exOps (Hub.bounded_of_all (by decide +kernel))
example : (3 ∈ ((runOps (exOps.take 7)).chain "e").ids ∧
    3 ∉ ((apply (runOps (exOps.take 7)) (.cancel "a" "e" 3)).1.chain "e").ids) := by decide +kernel

/-- Tie to the code: in `cancelSendToExternal` the entry leaves the pool last — after the refund was minted and routed and the status
    written — so a refund whose routing fails (its error is dropped by the expiry sweep, which runs outside a transaction) leaves the
    transfer where it was, beside the refund already minted.  The model's `cancelSte` has the same order (`Hub.cancelFinish` comes
    last; `cancelSte_cases`), and C01's `cancelSte_partial_failure_mints` is that outcome. -/
theorem fact_cancel_call_order : Generated.cancel_call_order =
    "MintCoins,SendCoinsFromModuleToAccount,SendCoinsFromModuleToAccount,createSendToExternal,SetTxStatus,deleteUnbatchedSendToExternal" := rfl

end Mhub2.C04
