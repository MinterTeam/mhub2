/-
  C07 (contract calls) — the sign-bytes of a contract (logic) call determine the call, are never the
  sign-bytes of a signer set or a batch, and the recovery byte is one of 0, 1, 27, 28.

  `Props/C07.lean` shows the hub and `submitLogicCall` encode the SAME argument list.  Of the
  invalidation scope only `scope32` is visible in it (the first 32 bytes, zero padded): longer or
  zero-extended scopes collide.

  `keccak256` is never unfolded.  `ecrecover` is an abstract function `r`.
-/
import Mhub2.Abi
import Lemmas.Encoding
import Lemmas.AbiCall
import Props.C07
namespace Mhub2.C07Call
open Mhub2 Mhub2.Enc Mhub2.C07


/-! ### 1. Well-typed calls -/

/-- A call as the hub stores it: `uint256` amounts, 20-byte token and contract addresses, lists
    and payload short enough for a `uint256` length word, `uint64` (so `< 2^256`) timeout and
    invalidation nonce.  Nothing is asked of the invalidation scope: `scope32` makes a `bytes32`
    of any byte string. -/
structure CallViewWF (c : CallView) : Prop where
  transferAmounts_lt : ∀ a ∈ c.transferAmounts, a < 2 ^ 256
  transferTokens_len : ∀ t ∈ c.transferTokens, t.length = 20
  feeAmounts_lt : ∀ a ∈ c.feeAmounts, a < 2 ^ 256
  feeTokens_len : ∀ t ∈ c.feeTokens, t.length = 20
  transferAmounts_short : c.transferAmounts.length < 2 ^ 256
  transferTokens_short : c.transferTokens.length < 2 ^ 256
  feeAmounts_short : c.feeAmounts.length < 2 ^ 256
  feeTokens_short : c.feeTokens.length < 2 ^ 256
  logicContract_len : c.logicContract.length = 20
  payload_short : c.payload.length < 2 ^ 256
  timeout_lt : c.timeout < 2 ^ 256
  invalidationNonce_lt : c.invalidationNonce < 2 ^ 256

theorem method_name_call_length : (padRight (strBytes "logicCall") 32).length = 32 := by
  decide +kernel

theorem goArgsCall_wf {g : Bytes} {c : CallView} (hg : g.length = 32) (hc : CallViewWF c) :
    ∀ v ∈ goArgsCall g c, AbiWF v := by
  rw [checkpoint_args_agree_call]
  exact wf_solArgsCall hg method_name_call_length hc.transferAmounts_short hc.transferAmounts_lt
    hc.transferTokens_short hc.transferTokens_len hc.feeAmounts_short hc.feeAmounts_lt
    hc.feeTokens_short hc.feeTokens_len hc.logicContract_len hc.payload_short hc.timeout_lt
    (scope32_len _) hc.invalidationNonce_lt

/-- The Solidity signature of the call checkpoint is fixed:
    `(bytes32, bytes32, uint256[], address[], uint256[], address[], address, bytes, uint256, bytes32, uint256)`. -/
theorem goArgsCall_kinds (g : Bytes) (c : CallView) :
    (goArgsCall g c).map abiKind = [0, 0, 3, 4, 3, 4, 2, 5, 1, 0, 1] := rfl

theorem encode_call_length {g : Bytes} {c : CallView} (hg : g.length = 32) (hc : CallViewWF c) :
    (abiEncode (goArgsCall g c)).length =
      32 * 11 + (32 + 32 * c.transferAmounts.length) + (32 + 32 * c.transferTokens.length)
        + (32 + 32 * c.feeAmounts.length) + (32 + 32 * c.feeTokens.length)
        + (32 + roundUp32 c.payload.length) ∧
    (abiEncode (goArgsCall g c)).length % 32 = 0 := by
  have hw := goArgsCall_wf hg hc
  rw [Enc.abiEncode_length hw]
  refine ⟨?_, by have := tailsLen_mod _ hw; omega⟩
  clear hw
  simp only [goArgsCall, tailsLen, AbiVal.isDynamic, if_true, Bool.false_eq_true, if_false,
    uintArr_body_length, addrArr_body_length hc.transferTokens_len, addrArr_body_length hc.feeTokens_len,
    dynBytes_body_length, List.length_cons, List.length_nil, Nat.zero_add, Nat.add_zero]
  generalize roundUp32 c.payload.length = p
  omega


/-! ### 2. The pre-image determines the call -/

theorem encode_call_injective {g1 g2 m1 m2 : Bytes} {ta1 ta2 : List Nat} {tt1 tt2 : List Bytes}
    {fa1 fa2 : List Nat} {ft1 ft2 : List Bytes} {lc1 lc2 pl1 pl2 : Bytes} {to1 to2 : Nat}
    {iid1 iid2 : Bytes} {in1 in2 : Nat}
    (h1 : ∀ v ∈ solArgsCall g1 m1 ta1 tt1 fa1 ft1 lc1 pl1 to1 iid1 in1, AbiWF v)
    (h2 : ∀ v ∈ solArgsCall g2 m2 ta2 tt2 fa2 ft2 lc2 pl2 to2 iid2 in2, AbiWF v)
    (h : abiEncode (solArgsCall g1 m1 ta1 tt1 fa1 ft1 lc1 pl1 to1 iid1 in1)
        = abiEncode (solArgsCall g2 m2 ta2 tt2 fa2 ft2 lc2 pl2 to2 iid2 in2)) :
    g1 = g2 ∧ m1 = m2 ∧ ta1 = ta2 ∧ tt1 = tt2 ∧ fa1 = fa2 ∧ ft1 = ft2 ∧ lc1 = lc2 ∧ pl1 = pl2 ∧
      to1 = to2 ∧ iid1 = iid2 ∧ in1 = in2 := by
  have := abiEncode_inj (by rw [solArgsCall_kinds, solArgsCall_kinds]) h1 h2 h
  simp only [solArgsCall, List.cons.injEq, AbiVal.bytes32.injEq, AbiVal.uint.injEq,
    AbiVal.addrArr.injEq, AbiVal.uintArr.injEq, AbiVal.address.injEq, AbiVal.dynBytes.injEq,
    and_true] at this
  exact this

/-- Go side: the gravity id and every field of a well-formed call are determined by the bytes
    the validators sign — the invalidation scope up to `scope32` (its first 32 bytes, zero padded). -/
theorem go_call_preimage_injective {g1 g2 : Bytes} {c1 c2 : CallView}
    (hg1 : g1.length = 32) (hg2 : g2.length = 32) (hc1 : CallViewWF c1) (hc2 : CallViewWF c2)
    (h : abiEncode (goArgsCall g1 c1) = abiEncode (goArgsCall g2 c2)) :
    g1 = g2 ∧ c1.transferAmounts = c2.transferAmounts ∧ c1.transferTokens = c2.transferTokens ∧
      c1.feeAmounts = c2.feeAmounts ∧ c1.feeTokens = c2.feeTokens ∧
      c1.logicContract = c2.logicContract ∧ c1.payload = c2.payload ∧ c1.timeout = c2.timeout ∧
      scope32 c1.invalidationScope = scope32 c2.invalidationScope ∧
      c1.invalidationNonce = c2.invalidationNonce := by
  have hw1 := goArgsCall_wf hg1 hc1
  have hw2 := goArgsCall_wf hg2 hc2
  rw [checkpoint_args_agree_call] at h hw1
  rw [checkpoint_args_agree_call] at h hw2
  obtain ⟨e1, _, e3, e4, e5, e6, e7, e8, e9, e10, e11⟩ := encode_call_injective hw1 hw2 h
  exact ⟨e1, e3, e4, e5, e6, e7, e8, e9, e10, e11⟩

/-- For invalidation scopes of one length, at most 32 bytes, the pre-image determines the gravity id and
    the whole call: `scope32` only pads such a scope. -/
theorem go_call_preimage_scope_prefix {g1 g2 : Bytes} {c1 c2 : CallView}
    (hg1 : g1.length = 32) (hg2 : g2.length = 32) (hc1 : CallViewWF c1) (hc2 : CallViewWF c2)
    (hl : c1.invalidationScope.length = c2.invalidationScope.length)
    (h32 : c1.invalidationScope.length ≤ 32)
    (h : abiEncode (goArgsCall g1 c1) = abiEncode (goArgsCall g2 c2)) : g1 = g2 ∧ c1 = c2 := by
  obtain ⟨e1, e2, e3, e4, e5, e6, e7, e8, e9, e10⟩ := go_call_preimage_injective hg1 hg2 hc1 hc2 h
  have e9' := scope32_inj_of_len hl h32 e9
  refine ⟨e1, ?_⟩
  cases c1; cases c2
  simp only at e2 e3 e4 e5 e6 e7 e8 e9' e10
  simp only [CallView.mk.injEq]
  exact ⟨e2, e3, e4, e5, e6, e7, e8, e9', e10⟩

/-- With full 32-byte invalidation scopes (what the contract stores), the pre-image determines
    the gravity id and the whole call. -/
theorem go_call_preimage_injective_scope32 {g1 g2 : Bytes} {c1 c2 : CallView}
    (hg1 : g1.length = 32) (hg2 : g2.length = 32) (hc1 : CallViewWF c1) (hc2 : CallViewWF c2)
    (hs1 : c1.invalidationScope.length = 32) (hs2 : c2.invalidationScope.length = 32)
    (h : abiEncode (goArgsCall g1 c1) = abiEncode (goArgsCall g2 c2)) : g1 = g2 ∧ c1 = c2 :=
  go_call_preimage_scope_prefix hg1 hg2 hc1 hc2 (hs1.trans hs2.symm) (Nat.le_of_eq hs1) h


/-! ### 3. The three kinds of checkpoint are pairwise disjoint -/

theorem call_ne_checkpoint_name :
    padRight (strBytes "logicCall") 32 ≠ padRight (strBytes "checkpoint") 32 := by decide +kernel

theorem call_ne_batch_name :
    padRight (strBytes "logicCall") 32 ≠ padRight (strBytes "transactionBatch") 32 := by decide +kernel

theorem go_call_method_word {g : Bytes} (hg : g.length = 32) (c : CallView) :
    ((abiEncode (goArgsCall g c)).drop 32).take 32 = padRight (strBytes "logicCall") 32 :=
  abiEncode_method_word hg method_name_call_length _

theorem encode_call_ne_signerset {g1 g2 m1 m2 : Bytes} {ta tt fa ft lc pl to iid inonce}
    {n : Nat} {vs : List Bytes} {ps : List Nat}
    (hg1 : g1.length = 32) (hg2 : g2.length = 32) (hm1 : m1.length = 32) (hm2 : m2.length = 32)
    (hne : m1 ≠ m2) :
    abiEncode (solArgsCall g1 m1 ta tt fa ft lc pl to iid inonce)
      ≠ abiEncode (solArgsSignerSet g2 m2 n vs ps) :=
  abiEncode_two_bytes32_ne hg1 hg2 hm1 hm2 hne _ _

theorem encode_call_ne_batch {g1 g2 m1 m2 : Bytes} {ta tt fa ft lc pl to iid inonce}
    {am ds fs n tk bto}
    (hg1 : g1.length = 32) (hg2 : g2.length = 32) (hm1 : m1.length = 32) (hm2 : m2.length = 32)
    (hne : m1 ≠ m2) :
    abiEncode (solArgsCall g1 m1 ta tt fa ft lc pl to iid inonce)
      ≠ abiEncode (solArgsBatch g2 m2 am ds fs n tk bto) :=
  abiEncode_two_bytes32_ne hg1 hg2 hm1 hm2 hne _ _

/-- A call is never signed as a signer set (no typing hypothesis on either side is needed). -/
theorem go_call_ne_signerset {g1 g2 : Bytes} (hg1 : g1.length = 32) (hg2 : g2.length = 32)
    (c : CallView) (n : Nat) (ms : List Signer) :
    abiEncode (goArgsCall g1 c) ≠ abiEncode (goArgsSignerSet g2 n ms) := by
  rw [checkpoint_args_agree_call, checkpoint_args_agree_signerset]
  exact encode_call_ne_signerset hg1 hg2 method_name_call_length method_name_lengths.1
    call_ne_checkpoint_name

/-- A call is never signed as a batch. -/
theorem go_call_ne_batch {g1 g2 : Bytes} (hg1 : g1.length = 32) (hg2 : g2.length = 32)
    (c : CallView) (b : BatchView) :
    abiEncode (goArgsCall g1 c) ≠ abiEncode (goArgsBatch g2 b) := by
  rw [checkpoint_args_agree_call, checkpoint_args_agree_batch]
  exact encode_call_ne_batch hg1 hg2 method_name_call_length method_name_lengths.2 call_ne_batch_name

/-! ### 4. What the digest does NOT see of the invalidation scope -/

theorem scope32_injective_on_32 {s1 s2 : Bytes} (h1 : s1.length = 32) (h2 : s2.length = 32)
    (h : scope32 s1 = scope32 s2) : s1 = s2 := by
  rwa [scope32_of_len32 h1, scope32_of_len32 h2] at h

theorem goArgsCall_scope_collision (g : Bytes) (c : CallView) {s s' : Bytes} (h : scope32 s = scope32 s') :
    goArgsCall g { c with invalidationScope := s } = goArgsCall g { c with invalidationScope := s' } := by
  simp only [goArgsCall, h]

theorem checkpointCall_scope_collision (gravityId : String) (c : CallView) {s s' : Bytes}
    (h : scope32 s = scope32 s') :
    checkpointCall gravityId { c with invalidationScope := s }
      = checkpointCall gravityId { c with invalidationScope := s' } := by
  unfold checkpointCall
  simp only [goArgsCall_scope_collision _ c h]

/-- A scope longer than 32 bytes is signed as its 32-byte prefix. -/
theorem scope_long_collides (g : Bytes) (c : CallView) (s : Bytes) :
    goArgsCall g { c with invalidationScope := s } = goArgsCall g { c with invalidationScope := s.take 32 } :=
  goArgsCall_scope_collision g c (scope32_take s).symm

/-- A short scope and the same scope followed by zero bytes are signed alike. -/
theorem scope_zero_extension_collides (g : Bytes) (c : CallView) {s : Bytes} {k : Nat}
    (h : s.length + k ≤ 32) :
    goArgsCall g { c with invalidationScope := s }
      = goArgsCall g { c with invalidationScope := s ++ List.replicate k 0 } :=
  goArgsCall_scope_collision g c (scope32_append_zeros h).symm

/-- Truncation and zero extension are the only collisions: scopes of one length, at most 32 bytes, are
    never confused (`Enc.scope32_inj_of_len`). -/
theorem scope32_injective_on_len {s1 s2 : Bytes} (hl : s1.length = s2.length) (h32 : s1.length ≤ 32)
    (h : scope32 s1 = scope32 s2) : s1 = s2 := scope32_inj_of_len hl h32 h

example : scope32 [1, 2] = scope32 [1, 2, 0] := by decide +kernel

example : [1, 2] ≠ ([1, 2, 0] : Bytes) := by decide

example : scope32 (List.replicate 32 7 ++ [9]) = scope32 (List.replicate 32 7) := by decide +kernel

example (g : Bytes) (c : CallView) :
    goArgsCall g { c with invalidationScope := [1, 2] }
      = goArgsCall g { c with invalidationScope := [1, 2, 0] } :=
  goArgsCall_scope_collision g c (by decide +kernel)

example : abiEncode (goArgsCall (List.replicate 32 1)
    { transferAmounts := [5], transferTokens := [List.replicate 20 9], feeAmounts := [], feeTokens := [],
      logicContract := List.replicate 20 3, payload := [1, 2, 3], timeout := 10,
      invalidationScope := [1, 2], invalidationNonce := 4 })
  = abiEncode (goArgsCall (List.replicate 32 1)
    { transferAmounts := [5], transferTokens := [List.replicate 20 9], feeAmounts := [], feeTokens := [],
      logicContract := List.replicate 20 3, payload := [1, 2, 3], timeout := 10,
      invalidationScope := [1, 2, 0], invalidationNonce := 4 }) := by
  simp only [goArgsCall, show scope32 [1, 2] = scope32 [1, 2, 0] by decide +kernel]


/-! ### 5. The recovery byte -/

theorem normV_byte64 (sig : Bytes) :
    (normV sig).getD 64 0 =
      if sig.getD 64 0 = 27 then 0 else if sig.getD 64 0 = 28 then 1 else sig.getD 64 0 := by
  rw [normV_spec]
  generalize sig.getD 64 0 = v
  by_cases h27 : v = 27
  · subst h27; rfl
  · by_cases h28 : v = 28
    · subst h28; rfl
    · rw [if_neg (by omega), if_neg h27, if_neg h28]

theorem normV_maps_27 {sig : Bytes} (h : sig.getD 64 0 = 27) : (normV sig).getD 64 0 = 0 := by
  rw [normV_byte64, if_pos h]

theorem normV_maps_28 {sig : Bytes} (h : sig.getD 64 0 = 28) : (normV sig).getD 64 0 = 1 := by
  rw [normV_byte64, if_neg (by omega), if_pos h]

theorem normV_other_unchanged {sig : Bytes} (h27 : sig.getD 64 0 ≠ 27) (h28 : sig.getD 64 0 ≠ 28) :
    normV sig = sig := normV_of_other h27 h28

theorem normV_canonical_iff (sig : Bytes) :
    (normV sig).getD 64 0 ∈ [0, 1] ↔ sig.getD 64 0 ∈ [0, 1, 27, 28] := by
  rw [normV_byte64]
  simp only [List.mem_cons, List.not_mem_nil, or_false]
  split
  · omega
  · split <;> omega

/-- For any set `ok` of recovery ids the recovery function may accept (libsecp256k1 behind
    go-ethereum's `SigToPub` takes `0..3`): a byte 64 outside `ok ∪ {27, 28}` is rejected. -/
theorem foreign_v_rejected_ids (r : Bytes → Bytes → Option Bytes) (ok : List Nat)
    (hr : ∀ m sig, sig.getD 64 0 ∉ ok → r m sig = none)
    (d sig a : Bytes) (hv : sig.getD 64 0 ∉ ok) (h27 : sig.getD 64 0 ≠ 27) (h28 : sig.getD 64 0 ≠ 28) :
    validateSig r d sig a = false := by
  have hn : (normV sig).getD 64 0 ∉ ok := by rwa [normV_of_other h27 h28]
  simp only [validateSig, hr _ _ hn, Bool.and_eq_false_imp]
  intro _
  rfl

/-- If recovery fails for every recovery byte other than 0 and 1 (a HYPOTHESIS on the abstract
    `r`; the EVM precompile, called with `v + 27`, accepts only 27 and 28, i.e. 0 and 1 here), the
    hub rejects every signature whose byte 64 is not 0, 1, 27 or 28 — whatever its length. -/
theorem foreign_v_rejected (r : Bytes → Bytes → Option Bytes)
    (hr : ∀ m sig, sig.getD 64 0 ∉ [0, 1] → r m sig = none)
    (d sig a : Bytes) (hv : sig.getD 64 0 ∉ [0, 1, 27, 28]) :
    validateSig r d sig a = false := by
  simp only [List.mem_cons, List.not_mem_nil, or_false, not_or] at hv
  exact foreign_v_rejected_ids r [0, 1] hr d sig a
    (by simp only [List.mem_cons, List.not_mem_nil, or_false, not_or]; exact ⟨hv.1, hv.2.1⟩)
    hv.2.2.1 hv.2.2.2

/-- The same for signatures of exactly 65 bytes, the length the contract's `(v, r, s)` has. -/
theorem foreign_v_rejected_65 (r : Bytes → Bytes → Option Bytes)
    (hr : ∀ m sig, sig.getD 64 0 ∉ [0, 1] → r m sig = none)
    (d sig a : Bytes) (_hl : sig.length = 65) (hv : sig.getD 64 0 ∉ [0, 1, 27, 28]) :
    validateSig r d sig a = false := foreign_v_rejected r hr d sig a hv

/-- Such a signature passes the length guard: it is the recovery function that rejects it. -/
theorem foreign_v_long_enough {sig : Bytes} (hv : sig.getD 64 0 ∉ [0, 1, 27, 28]) : 65 ≤ sig.length :=
  length_of_getD64_ne_zero (fun h => hv (by rw [h]; decide))

theorem accepted_v_canonical (r : Bytes → Bytes → Option Bytes)
    (hr : ∀ m sig, sig.getD 64 0 ∉ [0, 1] → r m sig = none)
    {d sig a : Bytes} (h : validateSig r d sig a = true) :
    sig.getD 64 0 ∈ [0, 1, 27, 28] ∧ (normV sig).getD 64 0 ∈ [0, 1] := by
  have : sig.getD 64 0 ∈ [0, 1, 27, 28] := by
    apply Classical.byContradiction
    intro hv
    rw [foreign_v_rejected r hr d sig a hv] at h
    cases h
  exact ⟨this, (normV_canonical_iff sig).mpr this⟩

theorem foreign_v_rejected_contract (r : Bytes → Bytes → Option Bytes)
    (hr : ∀ m sig, sig.getD 64 0 ∉ [0, 1] → r m sig = none)
    (d sig a : Bytes) (hv : sig.getD 64 0 ∉ [0, 1, 27, 28]) :
    contractVerify r d (normV sig) a = false := by
  rw [← contract_agrees r d sig a (foreign_v_long_enough hv)]
  exact foreign_v_rejected r hr d sig a hv

/-- The hypothesis is satisfiable: trivially … -/
example : ∀ (m sig : Bytes), sig.getD 64 0 ∉ [0, 1] → (fun (_ _ : Bytes) => (none : Option Bytes)) m sig = none :=
  fun _ _ _ => rfl

/-- … and by a recovery function that accepts something (the "address" is the first 20 bytes),
    for which a `v = 28` signature validates and a `v = 29` one does not. -/
example :
    let r : Bytes → Bytes → Option Bytes :=
      fun _ sig => if sig.getD 64 0 ∈ [0, 1] then some (sig.take 20) else none
    (∀ m sig, sig.getD 64 0 ∉ [0, 1] → r m sig = none) ∧
    validateSig r [1, 2, 3] (List.replicate 64 7 ++ [28]) (List.replicate 20 7) = true ∧
    validateSig r [1, 2, 3] (List.replicate 64 7 ++ [29]) (List.replicate 20 7) = false := by
  intro r
  have hr : ∀ m sig, sig.getD 64 0 ∉ [0, 1] → r m sig = none := by
    intro m sig h
    simp only [r, if_neg h]
  refine ⟨hr, ?_, foreign_v_rejected r hr _ _ _ (by decide +kernel)⟩
  simp only [validateSig, normV, r]
  decide +kernel

/-- The hypothesis is needed: `validateSig` itself places no constraint on byte 64, so a recovery
    function that ignores it accepts a signature with `v = 5`. -/
example :
    let r : Bytes → Bytes → Option Bytes := fun _ sig => some (sig.take 20)
    validateSig r [1, 2, 3] (List.replicate 64 7 ++ [5]) (List.replicate 20 7) = true := by
  simp only [validateSig, normV]
  decide +kernel

/-! ### 6. Non-vacuity -/

def sampleCall (nonce : Nat) : CallView :=
  { transferAmounts := [1000], transferTokens := [List.replicate 20 9], feeAmounts := [3],
    feeTokens := [List.replicate 20 11], logicContract := List.replicate 20 3,
    payload := [1, 2, 3, 4, 5], timeout := 10, invalidationScope := List.replicate 14 7,
    invalidationNonce := nonce }

theorem sampleCall_wf {n : Nat} (hn : n < 2 ^ 256) : CallViewWF (sampleCall n) where
  transferAmounts_lt := by simp only [sampleCall]; decide
  transferTokens_len := by simp only [sampleCall]; decide
  feeAmounts_lt := by simp only [sampleCall]; decide
  feeTokens_len := by simp only [sampleCall]; decide
  transferAmounts_short := by simp only [sampleCall]; decide
  transferTokens_short := by simp only [sampleCall]; decide
  feeAmounts_short := by simp only [sampleCall]; decide
  feeTokens_short := by simp only [sampleCall]; decide
  logicContract_len := by simp only [sampleCall]; decide
  payload_short := by simp only [sampleCall]; decide
  timeout_lt := by simp only [sampleCall]; decide
  invalidationNonce_lt := hn

example : CallViewWF
    { transferAmounts := [1000], transferTokens := [List.replicate 20 9], feeAmounts := [3],
      feeTokens := [List.replicate 20 11], logicContract := List.replicate 20 3,
      payload := [1, 2, 3, 4, 5], timeout := 10, invalidationScope := List.replicate 14 7,
      invalidationNonce := 4 } := sampleCall_wf (n := 4) (by decide)

/-- Two calls that differ only in the invalidation nonce have different pre-images — by the
    injectivity theorem, not by evaluation. -/
example : abiEncode (goArgsCall (List.replicate 32 1) (sampleCall 4))
    ≠ abiEncode (goArgsCall (List.replicate 32 1) (sampleCall 5)) := by
  intro h
  have := go_call_preimage_injective (by decide) (by decide) (sampleCall_wf (by decide))
    (sampleCall_wf (by decide)) h
  exact absurd this.2.2.2.2.2.2.2.2.2 (by decide)

theorem sampleCall_nonce_separated {n m : Nat} (hn : n < 2 ^ 256) (hm : m < 2 ^ 256) (hne : n ≠ m)
    (g : Bytes) (hg : g.length = 32) :
    abiEncode (goArgsCall g (sampleCall n)) ≠ abiEncode (goArgsCall g (sampleCall m)) := by
  intro h
  have := go_call_preimage_injective hg hg (sampleCall_wf hn) (sampleCall_wf hm) h
  exact hne this.2.2.2.2.2.2.2.2.2

example : (abiEncode (goArgsCall (List.replicate 32 1) (sampleCall 4))).length = 11 * 32 + 4 * 64 + 64 :=
  (encode_call_length (by decide) (sampleCall_wf (by decide))).1

example (n : Nat) (ms : List Signer) (b : BatchView) :
    abiEncode (goArgsCall (List.replicate 32 1) (sampleCall 4)) ≠ abiEncode (goArgsSignerSet (List.replicate 32 1) n ms) ∧
    abiEncode (goArgsCall (List.replicate 32 1) (sampleCall 4)) ≠ abiEncode (goArgsBatch (List.replicate 32 1) b) :=
  ⟨go_call_ne_signerset (by decide) (by decide) _ _ _, go_call_ne_batch (by decide) (by decide) _ _⟩

end Mhub2.C07Call
