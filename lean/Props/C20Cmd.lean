/-
  C20 — "a deposit becomes a claim only if its command is well formed: a valid recipient for the
  target chain and a non-negative integer fee below the amount less 1 %", on the raw strings of the
  payload (`command.ValidateAndComplete` with go-ethereum's `common.IsHexAddress`,
  `common.HexToAddress(..).Hex()` and `sdk.NewIntFromString` modelled at byte level:
  `Mhub2.commandCheck`).  `sdk.AccAddressFromBech32` (hub recipients) is a parameter.
-/
import Mhub2.Connector
namespace Mhub2.C20C
open Mhub2

/-- The three command types the connector knows. -/
def typeKnown (type : String) : Bool :=
  type == "send_to_ethereum" || type == "send_to_bsc" || type == "send_to_hub"

/-- Recipient validity for the type: 40 hex digits (optional `0x`) for the EVM chains, the bech32
    check for the hub. -/
def recipientOk (type : String) (recipient : Bytes) (hubOk : Bool) : Bool :=
  if type == "send_to_ethereum" || type == "send_to_bsc" then isHexAddress recipient
  else if type == "send_to_hub" then hubOk else false

/-- The byte-level check accepts exactly what the abstract acceptance predicate `commandValid`
    (Props/C20.lean, `command_wellformed`) accepts, with the fee parsed as `sdk.NewIntFromString` does. -/
theorem commandCheck_isSome (type : String) (recipient : Bytes) (hubOk : Bool) (fee : Bytes) (amount : Int) :
    (commandCheck type recipient hubOk fee amount).isSome =
      commandValid (typeKnown type) (recipientOk type recipient hubOk) (parseSdkInt fee) amount := by
  unfold commandCheck commandValid typeKnown recipientOk
  generalize (type == "send_to_ethereum" || type == "send_to_bsc") = evm
  generalize (type == "send_to_hub") = hub
  generalize isHexAddress recipient = hex
  -- the recipient check yields a recipient iff the type is known and the recipient is valid for it
  have hr : ∀ (x y : Bytes), (if evm then (if hex then some x else none)
      else if hub then (if hubOk then some y else none) else none).isSome =
      ((evm || hub) && (if evm then hex else if hub then hubOk else false)) := by
    intro x y
    cases evm
    · cases hub
      · rfl
      · cases hubOk <;> rfl
    · cases hex <;> rfl
  rw [← hr (checksumHex (strip0xBytes recipient)) recipient]
  generalize (if evm = true then (if hex = true then some (checksumHex (strip0xBytes recipient)) else none)
      else if hub = true then (if hubOk = true then some recipient else none) else none) = r
  cases r with
  | none => rfl
  | some r =>
    cases parseSdkInt fee with
    | none => rfl
    | some f =>
      show (if _ then some r else none).isSome = (true && _)
      rw [Bool.true_and]
      split
      · rename_i h; exact h.symm
      · rename_i h; exact (Bool.not_eq_true _ ▸ h).symm

/-- Accepted ⇒ known type, valid recipient for it, and the fee string is an integer `f` with
    `0 ≤ f < amount − amount/100`. -/
theorem accepted_only_if_wellformed {type : String} {recipient : Bytes} {hubOk : Bool} {fee : Bytes} {amount : Int} {r : Bytes}
    (h : commandCheck type recipient hubOk fee amount = some r) :
    typeKnown type = true ∧ recipientOk type recipient hubOk = true ∧
      ∃ f, parseSdkInt fee = some f ∧ 0 ≤ f ∧ f < amount - Int.tdiv amount 100 := by
  have hs : (commandCheck type recipient hubOk fee amount).isSome = true := by rw [h]; rfl
  rw [commandCheck_isSome] at hs
  unfold commandValid at hs
  generalize Int.tdiv amount 100 = q at hs ⊢
  cases hf : parseSdkInt fee with
  | none => rw [hf] at hs; simp at hs
  | some f =>
    rw [hf] at hs
    simp only [Bool.and_eq_true, Bool.not_eq_true', decide_eq_false_iff_not] at hs
    obtain ⟨⟨hk, hr⟩, h1, h2⟩ := hs
    exact ⟨hk, hr, f, rfl, by omega, by omega⟩

/-! ### The fee parser (`sdk.NewIntFromString` = `big.Int.SetString(s, 0)` + 256-bit bound) -/

theorem parseSdkInt_bound {b : Bytes} {v : Int} (h : parseSdkInt b = some v) : v.natAbs < 2 ^ 256 := by
  unfold parseSdkInt at h
  split at h
  · cases h
  · split at h
    · cases h
    · simp only [Option.some.injEq] at h; subst h; omega

theorem isAsciiDigit_iff {c : Nat} : isAsciiDigit c = true ↔ 48 ≤ c ∧ c ≤ 57 := by
  simp [isAsciiDigit]

theorem goScanDigits_decimal (ds : Bytes) (hd : ds.all isAsciiDigit = true) (a : ScanAcc) :
    goScanDigits 10 a ds =
      ({ val := ds.foldl (fun acc c => acc * 10 + (c - 48)) a.val, count := a.count + ds.length,
         prevUnderscore := if ds.isEmpty then a.prevUnderscore else false,
         prevDigit := if ds.isEmpty then a.prevDigit else true, invalSep := a.invalSep }, []) := by
  induction ds generalizing a with
  | nil => simp [goScanDigits]
  | cons c cs ih =>
    simp only [List.all_cons, Bool.and_eq_true, isAsciiDigit_iff] at hd
    have hc := hd.1
    have h95 : (c == 95) = false := by simp; omega
    have hv : goDigitVal c = some (c - 48) := by
      unfold goDigitVal
      have : (decide (48 ≤ c) && decide (c ≤ 57)) = true := by simp; omega
      simp [this]
    have hlt : c - 48 < 10 := by omega
    rw [goScanDigits]
    simp only [h95, hv, hlt, if_true, Bool.false_eq_true, if_false]
    rw [ih hd.2]
    simp only [List.foldl_cons, List.length_cons, List.isEmpty_cons, Bool.false_eq_true, if_false]
    cases cs <;> simp <;> omega

/-- An ordinary decimal fee — digits only, no leading zero — is read as the number it spells. -/
theorem parseSdkInt_decimal (ds : Bytes) (hne : ds ≠ []) (hd : ds.all isAsciiDigit = true) (h0 : ds.head? ≠ some 48)
    (hb : digitsVal ds < 2 ^ 256) : parseSdkInt ds = some (digitsVal ds : Int) := by
  have hsign : splitSign ds = (false, ds) := by
    cases ds with
    | nil => exact absurd rfl hne
    | cons c cs =>
      simp only [List.all_cons, Bool.and_eq_true, isAsciiDigit_iff] at hd
      have hc := hd.1
      unfold splitSign
      split
      · rename_i heq; injection heq with h1 _; omega
      · rename_i heq; injection heq with h1 _; omega
      · rfl
  have hnat : goScanNat ds = some (ScanAcc.mk (digitsVal ds) ds.length false true false, []) := by
    cases ds with
    | nil => exact absurd rfl hne
    | cons c cs =>
      have hc48 : c ≠ 48 := by intro h; apply h0; simp [h]
      unfold goScanNat
      split
      · rename_i heq; injection heq with h1 _; exact absurd h1 hc48
      · rename_i heq; injection heq with h1 _; exact absurd h1 hc48
      · rw [goScanDigits_decimal (c :: cs) hd]
        simp [digitsVal]
  have hscan : goSetString0 ds = some (digitsVal ds : Int) := by
    unfold goSetString0
    rw [hsign, hnat]
    simp
  unfold parseSdkInt
  rw [hscan]
  simp only [Int.natAbs_natCast]
  have : ¬ digitsVal ds ≥ 2 ^ 256 := by omega
  simp [this]

/-! ### The completed recipient is the same address -/

theorem isHexCharacter_lt {d : Nat} (h : isHexCharacter d = true) : d < 128 := by
  unfold isHexCharacter at h
  simp only [Bool.or_eq_true, Bool.and_eq_true, decide_eq_true_eq] at h
  omega

theorem checksum_char_table : ∀ d, d < 128 → ∀ b : Bool, isHexCharacter d = true →
    lowerHexChar (if (decide (97 ≤ lowerHexChar d) && b) = true then lowerHexChar d - 32 else lowerHexChar d) = lowerHexChar d := by
  decide

/-- EIP-55 only changes the case of letters: lower-casing the completed recipient gives the
    lower-cased digits that were supplied — `HexToAddress(..).Hex()` never turns a valid recipient into
    a different address.  Hypothesis `hlen`: the hash yields at least as many nibbles as there are
    digits (keccak256 yields 64; the hash is otherwise abstract here). -/
theorem checksumHex_same_address (digits : Bytes) (hhex : digits.all isHexCharacter = true)
    (hlen : digits.length ≤ (nibbles (keccak256 (digits.map lowerHexChar))).length) :
    ((checksumHex digits).drop 2).map lowerHexChar = digits.map lowerHexChar := by
  unfold checksumHex
  simp only [List.drop_append_of_le_length (l₁ := [48, 120]) (by simp : 2 ≤ [48, 120].length)]
  simp only [List.drop, List.nil_append, List.map_map]
  generalize nibbles (keccak256 (digits.map lowerHexChar)) = ns at hlen
  induction digits generalizing ns with
  | nil => simp
  | cons d ds ih =>
    simp only [List.all_cons, Bool.and_eq_true] at hhex
    cases ns with
    | nil => simp at hlen
    | cons n ns =>
      simp only [List.map_cons, List.zip_cons_cons, List.cons.injEq]
      refine ⟨?_, ih hhex.2 ns (by simpa using hlen)⟩
      simp only [Function.comp]
      exact checksum_char_table d (isHexCharacter_lt hhex.1) (decide (8 ≤ n)) hhex.1

/-- The completed recipient has the canonical shape: `0x` followed by as many characters as digits were given. -/
theorem checksumHex_shape (digits : Bytes)
    (hlen : digits.length ≤ (nibbles (keccak256 (digits.map lowerHexChar))).length) :
    (checksumHex digits).take 2 = [48, 120] ∧ (checksumHex digits).length = digits.length + 2 := by
  unfold checksumHex
  refine ⟨by simp, ?_⟩
  simp only [List.length_append, List.length_cons, List.length_nil, List.length_map, List.length_zip]
  omega

/-! ### Non-vacuity -/

-- "0x" ++ 40 × '3' with fee "98" of amount 100
example : (commandCheck "send_to_ethereum" ([48, 120] ++ List.replicate 40 51) false [57, 56] 100).isSome = true := by decide
-- fee 99 of 100 is not below the amount less 1 %
example : commandCheck "send_to_ethereum" ([48, 120] ++ List.replicate 40 51) false [57, 57] 100 = none := by decide
-- 42 characters, 0x-prefixed, but one of them is the letter O: not an address
example : commandCheck "send_to_bsc" ([48, 120] ++ List.replicate 39 51 ++ [79]) false [48] 100 = none := by decide
-- Go's base-0 literal syntax: "+5", "007" (octal 7), "1_0" (= 10), "0x10" (= 16), "010" (= 8) parse;
-- " 5", "", "-", "1e3", "08", "0x", "1_", "1__0" do not
example : parseSdkInt [43, 53] = some 5 ∧ parseSdkInt [48, 48, 55] = some 7 ∧ parseSdkInt [45, 53] = some (-5) ∧
    parseSdkInt [49, 95, 48] = some 10 ∧ parseSdkInt [48, 120, 49, 48] = some 16 ∧ parseSdkInt [48, 49, 48] = some 8 ∧
    parseSdkInt [32, 53] = none ∧ parseSdkInt [] = none ∧ parseSdkInt [45] = none ∧ parseSdkInt [49, 101, 51] = none ∧
    parseSdkInt [48, 56] = none ∧ parseSdkInt [48, 120] = none ∧ parseSdkInt [49, 95] = none ∧
    parseSdkInt [49, 95, 95, 48] = none := by decide

end Mhub2.C20C
