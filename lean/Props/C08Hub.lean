/-
  C08 (hub ↔ contract link) — the signer set the hub emits, read as the contract's current
  validator set.

  `Hub.currentSigners` (CurrentSignerSet) normalises the members' staking powers to 2^32 − 1 with
  one floor division per member; `checkSigs` (checkValidatorSignatures) adds the powers of the
  validly signing members and accepts iff the sum exceeds the deployed threshold 2863311530.
  Since 4294967295 = 3 · 1431655765 and 2863311530 = 2 · 1431655765, the threshold is *exactly*
  two thirds of the normalisation constant.  This file proves

    1. the emitted powers sum to a number in [2^32 − 1 − n, 2^32 − 1]          (`emitted_set_sum_bounds`)
    2. a selection of k members with stake S out of T gets normalised power N with
       N·T ≤ S·(2^32−1) < (N + k)·T                                          (`selected_power_bounds`)
    3. a stake share of at least 2/3 + k/(2^32−1) — a fortiori any share above 2/3 + (k+1)/2^32 —
       gives N > threshold, and the contract accepts the signatures of these members
                      (`two_thirds_of_stake_suffices`, `two_thirds_plus_slack_suffices`, `two_thirds_of_stake_is_accepted`)
    4. whatever the contract accepts was validly signed by members holding strictly more than two
       thirds of the members' stake                                           (`accepted_needs_two_thirds_of_stake`)
    5. a set that is not normalised against its own total can reject even unanimous signatures
                                                                              (`unnormalised_set_bricks_contract`)

  Selections are Boolean masks over the member list (`SetNorm.sel`); the signature vector in which
  exactly the masked members signed is `SetNorm.maskSlots`.  The members' address strings are
  turned into the contract's address bytes by an arbitrary function `enc` (the theorems hold for
  every encoding; the examples use `ethAddrBytes`).

  `stakeMembers` is the list `raw` inside `Hub.currentSigners` (`currentSigners_eq` holds by `rfl`), the
  same list as `Hub.rawSigners` of Lemmas/Keys (`stakeMembers_eq_rawSigners`).
-/
import Mhub2.Ledger
import Mhub2.Votes
import Mhub2.Contract
import Lemmas.Contract
import Lemmas.SetNorm
import Lemmas.Keys
import Props.C08
namespace Mhub2.C08Hub
open Mhub2 Mhub2.C08 Mhub2.SetNorm


/-! ### 0. The members before normalisation -/

/-- Bonded validators with a registered non-zero external address, with their *staking* power, in
    bonded-by-power order (the list `raw` of `Hub.currentSigners`). -/
def stakeMembers (h : Hub) (chain : String) : List Signer :=
  h.bondedByPower.filterMap fun v =>
    match alGet (h.chain chain).valExt v.addr with
    | none => none
    | some e => if e == zeroEth then none else some (Signer.mk v.power e)

theorem stakeMembers_eq_rawSigners (h : Hub) (chain : String) : stakeMembers h chain = h.rawSigners chain := rfl

/-- The total the powers are normalised against: the staking power of exactly the members. -/
def totalStake (h : Hub) (chain : String) : Nat := sumNats ((stakeMembers h chain).map (·.power))

def selStake (h : Hub) (chain : String) (mask : List Bool) : Nat :=
  sumNats ((sel mask (stakeMembers h chain)).map (·.power))

def selPower (l : List Signer) (mask : List Bool) : Nat := sumNats ((sel mask l).map (·.power))

def selCount (l : List Signer) (mask : List Bool) : Nat := (sel mask l).length

def valsOf (enc : String → Bytes) (l : List Signer) : List Bytes := l.map (fun s => enc s.addr)
def powersOf (l : List Signer) : List Nat := l.map (·.power)

theorem valsOf_length (enc : String → Bytes) (l : List Signer) :
    (valsOf enc l).length = (powersOf l).length := by
  unfold valsOf powersOf; rw [List.length_map, List.length_map]

theorem currentSigners_eq (h : Hub) (chain : String) :
    h.currentSigners chain =
      (if (stakeMembers h chain).isEmpty then .ok []
       else if totalStake h chain == 0 then panicM "division by zero"
       else .ok ((stakeMembers h chain).map fun s =>
          { s with power := s.power * maxU32 / totalStake h chain })) := rfl

/-- What `CurrentSignerSet` returns: every member's staking power `p` replaced by
    `⌊p · (2^32 − 1) / total⌋`; a non-empty result means a positive total. -/
theorem currentSigners_ok {h : Hub} {chain : String} {l : List Signer}
    (hok : h.currentSigners chain = .ok l) :
    l = (stakeMembers h chain).map (fun s => ⟨s.power * 4294967295 / totalStake h chain, s.addr⟩) ∧
    (l ≠ [] → 0 < totalStake h chain) := by
  rw [currentSigners_eq] at hok
  split at hok
  · rename_i he
    injection hok with hok
    have : stakeMembers h chain = [] := by simpa using he
    rw [this]
    exact ⟨hok.symm, fun hne => absurd hok.symm hne⟩
  · split at hok
    · cases hok
    · rename_i hz
      injection hok with hok
      refine ⟨hok.symm, fun _ => ?_⟩
      have : totalStake h chain ≠ 0 := by simpa using hz
      omega

theorem powers_eq {h : Hub} {chain : String} {l : List Signer}
    (hok : h.currentSigners chain = .ok l) :
    l.map (·.power) =
      ((stakeMembers h chain).map (·.power)).map (fun p => p * 4294967295 / totalStake h chain) := by
  conv => lhs; rw [(currentSigners_ok hok).1]
  rw [List.map_map, List.map_map]
  rfl

theorem selPower_eq {h : Hub} {chain : String} {l : List Signer}
    (hok : h.currentSigners chain = .ok l) (mask : List Bool) :
    selPower l mask =
      sumNats ((sel mask ((stakeMembers h chain).map (·.power))).map
        (fun p => p * 4294967295 / totalStake h chain)) := by
  unfold selPower
  rw [← sel_map, powers_eq hok, sel_map]

theorem selStake_eq (h : Hub) (chain : String) (mask : List Bool) :
    selStake h chain mask = sumNats (sel mask ((stakeMembers h chain).map (·.power))) := by
  unfold selStake
  rw [sel_map]

theorem selCount_eq {h : Hub} {chain : String} {l : List Signer}
    (hok : h.currentSigners chain = .ok l) (mask : List Bool) :
    selCount l mask = (sel mask ((stakeMembers h chain).map (·.power))).length := by
  unfold selCount
  conv => lhs; rw [(currentSigners_ok hok).1]
  rw [sel_map, sel_map, List.length_map, List.length_map]

theorem selStake_le_total (h : Hub) (chain : String) (mask : List Bool) :
    selStake h chain mask ≤ totalStake h chain := by
  rw [selStake_eq]
  exact sumNats_sel_le _ _

/-! ### 1. The emitted powers sum to almost exactly 2^32 − 1 -/

theorem emitted_set_sum_gt {h : Hub} {chain : String} {l : List Signer}
    (hok : h.currentSigners chain = .ok l) (hne : l ≠ []) :
    4294967295 < sumNats (l.map (·.power)) + l.length := by
  have hT := (currentSigners_ok hok).2 hne
  have hlen : l.length = ((stakeMembers h chain).map (·.power)).length := by
    rw [(currentSigners_ok hok).1, List.length_map, List.length_map]
  have hne' : (stakeMembers h chain).map (·.power) ≠ [] := by
    intro he
    rw [he] at hlen
    exact hne (List.eq_nil_of_length_eq_zero hlen)
  rw [powers_eq hok, hlen]
  exact sumNats_floor_total_lower 4294967295 _ hT hne'

theorem emitted_set_sum_bounds {h : Hub} {chain : String} {l : List Signer}
    (hok : h.currentSigners chain = .ok l) (hne : l ≠ []) :
    4294967295 - l.length ≤ sumNats (l.map (·.power)) ∧ sumNats (l.map (·.power)) ≤ 4294967295 := by
  have hlow := emitted_set_sum_gt hok hne
  have hup : sumNats (l.map (·.power)) ≤ 4294967295 := by
    rw [powers_eq hok]
    exact sumNats_floor_le 4294967295 _
  omega

/-! ### 2. Stake share versus normalised power -/

/-- `N·T ≤ S·(2^32−1) < (N + k)·T` for `k` selected members with stake `S` of the members' total `T` and
    normalised power `N`: at most the exact proportion and less than `k` units below it.  No hypothesis
    on `l`: for the empty set all quantities are 0. -/
theorem selected_power_bounds {h : Hub} {chain : String} {l : List Signer}
    (hok : h.currentSigners chain = .ok l) (mask : List Bool) :
    selPower l mask * totalStake h chain ≤ selStake h chain mask * 4294967295 ∧
    selStake h chain mask * 4294967295 + selCount l mask
      ≤ (selPower l mask + selCount l mask) * totalStake h chain ∧
    (0 < selCount l mask →
      selStake h chain mask * 4294967295 < (selPower l mask + selCount l mask) * totalStake h chain) := by
  rw [selPower_eq hok, selStake_eq, selCount_eq hok]
  have hup := sumNats_floor_mul_le 4294967295 (totalStake h chain)
    (sel mask ((stakeMembers h chain).map (·.power)))
  have hlow : sumNats (sel mask ((stakeMembers h chain).map (·.power))) * 4294967295
        + (sel mask ((stakeMembers h chain).map (·.power))).length
      ≤ (sumNats ((sel mask ((stakeMembers h chain).map (·.power))).map
            (fun p => p * 4294967295 / totalStake h chain))
          + (sel mask ((stakeMembers h chain).map (·.power))).length) * totalStake h chain := by
    by_cases hl : l = []
    · -- no members at all: the selection is empty
      have hraw : stakeMembers h chain = [] :=
        List.map_eq_nil_iff.1 ((currentSigners_ok hok).1.symm.trans hl)
      rw [hraw, List.map_nil, sel_nil_right]
      simp
    · exact sumNats_floor_lower 4294967295 _ ((currentSigners_ok hok).2 hl) _
  refine ⟨hup, hlow, fun hk => ?_⟩
  omega

/-! ### 3. Two thirds of the stake (plus rounding slack) suffice -/

/-- If the selected `k` members hold a share of the members' stake of at least
    `2/3 + k/(2^32−1)` — written without division: `(2863311530 + k)·T ≤ S·4294967295`, where
    2863311530 / 4294967295 = 2/3 exactly — their normalised powers sum to more than the contract's
    threshold 2863311530. -/
theorem two_thirds_of_stake_suffices {h : Hub} {chain : String} {l : List Signer}
    (hok : h.currentSigners chain = .ok l) (hne : l ≠ []) (mask : List Bool)
    (hS : (2863311530 + selCount l mask) * totalStake h chain ≤ selStake h chain mask * 4294967295) :
    selPower l mask > 2863311530 := by
  have hT := (currentSigners_ok hok).2 hne
  obtain ⟨_, hlow, _⟩ := selected_power_bounds hok mask
  -- an empty selection holds no stake
  have hk : 0 < selCount l mask := by
    apply Nat.pos_of_ne_zero
    intro hk0
    have hS0 : selStake h chain mask = 0 := by
      rw [selCount_eq hok] at hk0
      rw [selStake_eq, List.eq_nil_of_length_eq_zero hk0]; rfl
    rw [hS0, hk0] at hS
    omega
  apply Nat.lt_of_not_le
  intro hN
  have hmono : (selPower l mask + selCount l mask) * totalStake h chain
      ≤ (2863311530 + selCount l mask) * totalStake h chain :=
    Nat.mul_le_mul_right _ (by omega)
  omega

theorem two_thirds_of_stake_suffices_thirds {h : Hub} {chain : String} {l : List Signer}
    (hok : h.currentSigners chain = .ok l) (hne : l ≠ []) (mask : List Bool)
    (hS : (2 * 4294967295 + 3 * selCount l mask) * totalStake h chain
            ≤ 3 * selStake h chain mask * 4294967295) :
    selPower l mask > 2863311530 := by
  apply two_thirds_of_stake_suffices hok hne mask
  have e : (2 * 4294967295 + 3 * selCount l mask) * totalStake h chain
      = 3 * ((2863311530 + selCount l mask) * totalStake h chain) := by
    rw [← Nat.mul_assoc]; congr 1; omega
  rw [e, Nat.mul_assoc] at hS
  omega

theorem two_thirds_plus_unit_suffices {h : Hub} {chain : String} {l : List Signer}
    (hok : h.currentSigners chain = .ok l) (hne : l ≠ []) (mask : List Bool)
    (hS : (3 * 2863311530 + 3 * selCount l mask + 3) * totalStake h chain
            ≤ 3 * selStake h chain mask * 4294967295) :
    selPower l mask > 2863311530 := by
  apply two_thirds_of_stake_suffices hok hne mask
  have e : (3 * 2863311530 + 3 * selCount l mask + 3) * totalStake h chain
      = 3 * ((2863311530 + selCount l mask) * totalStake h chain) + 3 * totalStake h chain := by
    rw [← Nat.mul_assoc, ← Nat.add_mul]; congr 1; omega
  rw [e, Nat.mul_assoc] at hS
  omega

/-- A SHARE OF STAKE ABOVE `2/3 + (k+1)/2^32` SUFFICES: `S/T > 2/3 + (k+1)/2^32`, written without
    division as `(2·2^32 + 3·(k+1))·T < 3·S·2^32`, implies normalised power above the threshold.
    (Uses `S ≤ T`; no bound on `k` is needed.) -/
theorem two_thirds_plus_slack_suffices {h : Hub} {chain : String} {l : List Signer}
    (hok : h.currentSigners chain = .ok l) (hne : l ≠ []) (mask : List Bool)
    (hS : (2 * 4294967296 + 3 * (selCount l mask + 1)) * totalStake h chain
            < 3 * selStake h chain mask * 4294967296) :
    selPower l mask > 2863311530 := by
  apply two_thirds_of_stake_suffices hok hne mask
  have hle := selStake_le_total h chain mask
  have e : (2 * 4294967296 + 3 * (selCount l mask + 1)) * totalStake h chain
      = 8589934595 * totalStake h chain + 3 * (selCount l mask * totalStake h chain) := by
    rw [← Nat.mul_assoc, ← Nat.add_mul]; congr 1; omega
  rw [e] at hS
  rw [Nat.add_mul]
  omega

theorem validPower_emitted (enc : String → Bytes) (l : List Signer) (mask : List Bool) (theHash : Bytes) :
    validPower (valsOf enc l) (powersOf l) (maskSlots theHash mask (valsOf enc l)) theHash
      = selPower l mask := by
  rw [validPower_maskSlots _ _ _ _ (valsOf_length enc l)]
  unfold powersOf selPower
  rw [sel_map]

theorem accepted_iff_selected_power (enc : String → Bytes) (l : List Signer) (mask : List Bool)
    (theHash : Bytes) (th : Nat) :
    checkSigs (valsOf enc l) (powersOf l) (maskSlots theHash mask (valsOf enc l)) theHash th = true
      ↔ selPower l mask > th := by
  rw [contract_accepts_iff (slotsOK_maskSlots _ _ _), validPower_emitted]

/-- TWO THIRDS OF THE STAKE ARE ACCEPTED.  Let the contract's current validator set be the set the
    hub emitted (addresses and normalised powers in order), let the members marked in `mask` sign
    `theHash` (slot `.sig addr theHash`) and all other slots be absent.  If the signing members hold a
    share of the members' stake of at least `2/3 + k/(2^32−1)` (`k` = number of signers), then
    `checkValidatorSignatures` with the deployed threshold 2863311530 accepts. -/
theorem two_thirds_of_stake_is_accepted (enc : String → Bytes) {h : Hub} {chain : String}
    {l : List Signer} (hok : h.currentSigners chain = .ok l) (hne : l ≠ []) (mask : List Bool)
    (theHash : Bytes)
    (hS : (2863311530 + selCount l mask) * totalStake h chain ≤ selStake h chain mask * 4294967295) :
    checkSigs (valsOf enc l) (powersOf l) (maskSlots theHash mask (valsOf enc l)) theHash 2863311530
      = true :=
  (accepted_iff_selected_power enc l mask theHash _).2 (two_thirds_of_stake_suffices hok hne mask hS)

theorem two_thirds_plus_slack_is_accepted (enc : String → Bytes) {h : Hub} {chain : String}
    {l : List Signer} (hok : h.currentSigners chain = .ok l) (hne : l ≠ []) (mask : List Bool)
    (theHash : Bytes)
    (hS : (2 * 4294967296 + 3 * (selCount l mask + 1)) * totalStake h chain
            < 3 * selStake h chain mask * 4294967296) :
    checkSigs (valsOf enc l) (powersOf l) (maskSlots theHash mask (valsOf enc l)) theHash 2863311530
      = true :=
  (accepted_iff_selected_power enc l mask theHash _).2 (two_thirds_plus_slack_suffices hok hne mask hS)

/-- The same with the signature vector described slot by slot instead of by `maskSlots`: one slot
    per member, the slot of a selected member is that member's signature over `theHash`, the slot
    of an unselected member is absent. -/
theorem two_thirds_of_stake_is_accepted_pointwise (enc : String → Bytes) {h : Hub} {chain : String}
    {l : List Signer} (hok : h.currentSigners chain = .ok l) (hne : l ≠ []) (mask : List Bool)
    (theHash : Bytes) (sigs : List SigSlot)
    (hlm : mask.length = l.length) (hls : sigs.length = l.length)
    (hsel : ∀ (i : Nat) (hi : i < l.length), mask[i]'(hlm ▸ hi) = true →
      sigs[i]'(hls ▸ hi) = .sig (enc l[i].addr) theHash)
    (hunsel : ∀ (i : Nat) (hi : i < l.length), mask[i]'(hlm ▸ hi) = false →
      sigs[i]'(hls ▸ hi) = .absent)
    (hS : (2863311530 + selCount l mask) * totalStake h chain ≤ selStake h chain mask * 4294967295) :
    checkSigs (valsOf enc l) (powersOf l) sigs theHash 2863311530 = true := by
  have hsig : sigs = maskSlots theHash mask (valsOf enc l) := by
    clear hS hok hne
    induction l generalizing mask sigs with
    | nil =>
      have : sigs = [] := List.eq_nil_of_length_eq_zero hls
      rw [this]; unfold valsOf; rw [List.map_nil, maskSlots_nil_right]
    | cons s t ih =>
      cases mask with
      | nil => simp at hlm
      | cons b bs =>
        cases sigs with
        | nil => simp at hls
        | cons g gs =>
          have hlm' : bs.length = t.length := by simpa using hlm
          have hls' : gs.length = t.length := by simpa using hls
          have hrest := ih bs gs hlm' hls'
            (fun i hi hb => by
              have := hsel (i + 1) (by simp; omega) (by simpa using hb)
              simpa using this)
            (fun i hi hb => by
              have := hunsel (i + 1) (by simp; omega) (by simpa using hb)
              simpa using this)
          unfold valsOf at hrest ⊢
          rw [List.map_cons, maskSlots_cons_cons, ← hrest]
          congr 1
          cases b with
          | true => exact hsel 0 (by simp) rfl
          | false => exact hunsel 0 (by simp) rfl
  rw [hsig]
  exact two_thirds_of_stake_is_accepted enc hok hne mask theHash hS

/-! ### 4. Nothing confirmed by two thirds of the stake or less is accepted -/

theorem power_above_threshold_needs_two_thirds {h : Hub} {chain : String} {l : List Signer}
    (hok : h.currentSigners chain = .ok l) (mask : List Bool)
    (hN : selPower l mask > 2863311530) :
    selStake h chain mask * 4294967295 > 2863311530 * totalStake h chain ∧
    2 * totalStake h chain < 3 * selStake h chain mask := by
  obtain ⟨hup, _, _⟩ := selected_power_bounds hok mask
  have hne : l ≠ [] := by
    intro hl
    rw [hl] at hN
    unfold selPower at hN
    rw [sel_nil_right] at hN
    exact absurd hN (by decide)
  have hT := (currentSigners_ok hok).2 hne
  have hmono : (2863311530 + 1) * totalStake h chain ≤ selPower l mask * totalStake h chain :=
    Nat.mul_le_mul_right _ hN
  omega

/-- THE CONTRACT ACCEPTS NOTHING CONFIRMED BY LESS.  With the emitted set as the contract's current
    validator set and exactly the members in `mask` signing, acceptance by
    `checkValidatorSignatures` (threshold 2863311530) implies that the signers hold *strictly more
    than two thirds* of the members' stake: `S·4294967295 > 2863311530·T`, equivalently
    `3·S > 2·T`. -/
theorem accepted_needs_two_thirds_of_stake (enc : String → Bytes) {h : Hub} {chain : String}
    {l : List Signer} (hok : h.currentSigners chain = .ok l) (mask : List Bool) (theHash : Bytes)
    (hacc : checkSigs (valsOf enc l) (powersOf l) (maskSlots theHash mask (valsOf enc l)) theHash
      2863311530 = true) :
    selStake h chain mask * 4294967295 > 2863311530 * totalStake h chain ∧
    2 * totalStake h chain < 3 * selStake h chain mask :=
  power_above_threshold_needs_two_thirds hok mask
    ((accepted_iff_selected_power enc l mask theHash _).1 hacc)

/-- The same for an *arbitrary* signature vector (wrong signers, wrong digests, any length): if the
    contract accepts, the members whose slot really holds their signature over `theHash`
    (`validMask`) hold strictly more than two thirds of the members' stake. -/
theorem accepted_needs_two_thirds_of_stake_any_sigs (enc : String → Bytes) {h : Hub} {chain : String}
    {l : List Signer} (hok : h.currentSigners chain = .ok l) (sigs : List SigSlot) (theHash : Bytes)
    (hacc : checkSigs (valsOf enc l) (powersOf l) sigs theHash 2863311530 = true) :
    selStake h chain (validMask theHash (valsOf enc l) sigs) * 4294967295
        > 2863311530 * totalStake h chain ∧
    2 * totalStake h chain < 3 * selStake h chain (validMask theHash (valsOf enc l) sigs) := by
  apply power_above_threshold_needs_two_thirds hok
  have hp := contract_rejects_less hacc
  rw [validPower_eq_sel _ _ _ _ (valsOf_length enc l)] at hp
  unfold powersOf at hp
  rw [sel_map] at hp
  exact hp

theorem two_thirds_or_less_rejected (enc : String → Bytes) {h : Hub} {chain : String}
    {l : List Signer} (hok : h.currentSigners chain = .ok l) (sigs : List SigSlot) (theHash : Bytes)
    (hS : 3 * selStake h chain (validMask theHash (valsOf enc l) sigs) ≤ 2 * totalStake h chain) :
    checkSigs (valsOf enc l) (powersOf l) sigs theHash 2863311530 = false := by
  cases hc : checkSigs (valsOf enc l) (powersOf l) sigs theHash 2863311530 with
  | false => rfl
  | true =>
    have := (accepted_needs_two_thirds_of_stake_any_sigs enc hok sigs theHash hc).2
    omega

/-- The threshold is exactly two thirds of the normalisation constant. -/
theorem threshold_is_two_thirds : 3 * 2863311530 = 2 * 4294967295 := by decide

/-! ### 5. Why normalising against the members' own total matters -/

/-- Three validators with a third of the stake each, one of them without a registered key.  Had the
    two keyed members been normalised against the total of *all three* (⌊(2^32−1)/3⌋ = 1431655765
    each), their powers would sum to 2863311530, which is not *above* the threshold: the contract
    rejects even when every member of its set signs validly — no signer-set update or batch could
    ever be executed again. -/
theorem unnormalised_set_bricks_contract :
    checkSigs [[1], [2]] [1431655765, 1431655765] [.sig [1] [9], .sig [2] [9]] [9] 2863311530 = false := by
  decide +kernel

/-- … and no signature vector at all helps (the valid power is at most the sum of the powers). -/
theorem unnormalised_set_bricks_contract_all (sigs : List SigSlot) (theHash : Bytes) :
    checkSigs [[1], [2]] [1431655765, 1431655765] sigs theHash 2863311530 = false := by
  cases hc : checkSigs [[1], [2]] [1431655765, 1431655765] sigs theHash 2863311530 with
  | false => rfl
  | true =>
    have hp := contract_rejects_less hc
    rw [validPower_eq_sel _ _ _ _ (by rfl)] at hp
    have := sumNats_sel_le (validMask theHash [[1], [2]] sigs) [1431655765, 1431655765]
    have e : sumNats [1431655765, 1431655765] = 2863311530 := by decide +kernel
    omega

/-! ### 6. Non-vacuity -/

def exHub : Hub :=
  { chains := ["eth"], height := 7,
    staking := [⟨"aa", 40, true⟩, ⟨"bb", 35, true⟩, ⟨"cc", 25, true⟩],
    cs := [("eth", { valExt := [("aa", "0x00000000000000000000000000000000000000a1"),
                                ("bb", "0x00000000000000000000000000000000000000b1"),
                                ("cc", "0x00000000000000000000000000000000000000c1")] })] }

def exSet : List Signer :=
  [⟨1717986918, "0x00000000000000000000000000000000000000a1"⟩,
   ⟨1503238553, "0x00000000000000000000000000000000000000b1"⟩,
   ⟨1073741823, "0x00000000000000000000000000000000000000c1"⟩]

theorem exHub_signers : exHub.currentSigners "eth" = .ok exSet := by rfl

/-- The three example addresses as the contract sees them (evaluated once, on the characters of the
    literals: `Enc.ethAddrBytes_ofList_0x`). -/
theorem exAddrBytes :
    ethAddrBytes "0x00000000000000000000000000000000000000a1" = List.replicate 19 0 ++ [0xa1] ∧
    ethAddrBytes "0x00000000000000000000000000000000000000b1" = List.replicate 19 0 ++ [0xb1] ∧
    ethAddrBytes "0x00000000000000000000000000000000000000c1" = List.replicate 19 0 ++ [0xc1] := by
  rw [Enc.ethAddrBytes_ofList_0x, Enc.ethAddrBytes_ofList_0x, Enc.ethAddrBytes_ofList_0x]
  decide +kernel

example : sumNats (exSet.map (·.power)) = 4294967294 := by decide +kernel
example : 4294967295 - exSet.length ≤ sumNats (exSet.map (·.power)) ∧
    sumNats (exSet.map (·.power)) ≤ 4294967295 :=
  emitted_set_sum_bounds exHub_signers (by decide)

theorem exHub_hyp :
    (2863311530 + selCount exSet [true, true, false]) * totalStake exHub "eth"
      ≤ selStake exHub "eth" [true, true, false] * 4294967295 := by decide +kernel

example : selStake exHub "eth" [true, true, false] = 75 ∧ totalStake exHub "eth" = 100 ∧
    selCount exSet [true, true, false] = 2 ∧ selPower exSet [true, true, false] = 3221225471 := by
  decide +kernel

/-- (3) applies: the signatures of the first two members (75 of 100) are accepted. -/
example (theHash : Bytes) :
    checkSigs (valsOf ethAddrBytes exSet) (powersOf exSet)
      (maskSlots theHash [true, true, false] (valsOf ethAddrBytes exSet)) theHash 2863311530 = true :=
  two_thirds_of_stake_is_accepted ethAddrBytes exHub_signers (by decide) _ theHash exHub_hyp

example (theHash : Bytes) :
    checkSigs (valsOf ethAddrBytes exSet) (powersOf exSet)
      (maskSlots theHash [true, true, false] (valsOf ethAddrBytes exSet)) theHash 2863311530 = true :=
  two_thirds_plus_slack_is_accepted ethAddrBytes exHub_signers (by decide) _ theHash (by decide +kernel)

example : checkSigs (valsOf ethAddrBytes exSet) (powersOf exSet)
      [.sig (ethAddrBytes "0x00000000000000000000000000000000000000a1") [9],
       .sig (ethAddrBytes "0x00000000000000000000000000000000000000b1") [9], .absent] [9] 2863311530
    = true := by
  simp only [valsOf, powersOf, exSet, List.map, exAddrBytes]
  decide +kernel

/-- The first and the third member (65 of 100, less than two thirds) are rejected, by computation and
    by (4). -/
example : checkSigs (valsOf ethAddrBytes exSet) (powersOf exSet)
      (maskSlots [9] [true, false, true] (valsOf ethAddrBytes exSet)) [9] 2863311530 = false := by
  simp only [valsOf, powersOf, exSet, List.map, exAddrBytes]
  decide +kernel

example (theHash : Bytes) : checkSigs (valsOf ethAddrBytes exSet) (powersOf exSet)
      (maskSlots theHash [true, false, true] (valsOf ethAddrBytes exSet)) theHash 2863311530 = false := by
  cases hc : checkSigs (valsOf ethAddrBytes exSet) (powersOf exSet)
      (maskSlots theHash [true, false, true] (valsOf ethAddrBytes exSet)) theHash 2863311530 with
  | false => rfl
  | true =>
    have h2 := (accepted_needs_two_thirds_of_stake ethAddrBytes exHub_signers _ theHash hc).2
    have e : selStake exHub "eth" [true, false, true] = 65 ∧ totalStake exHub "eth" = 100 := by
      decide +kernel
    rw [e.1, e.2] at h2
    omega

/-- The slack in (3) is needed only for rounding: exactly two thirds of the stake is *not* enough
    (stakes 1, 1, 1; two members sign) — consistent with (4), which demands strictly more. -/
def exHubThirds : Hub :=
  { chains := ["eth"], height := 7,
    staking := [⟨"aa", 1, true⟩, ⟨"bb", 1, true⟩, ⟨"cc", 1, true⟩],
    cs := [("eth", { valExt := [("aa", "0x00000000000000000000000000000000000000a1"),
                                ("bb", "0x00000000000000000000000000000000000000b1"),
                                ("cc", "0x00000000000000000000000000000000000000c1")] })] }

example : (match exHubThirds.currentSigners "eth" with
    | .ok l => l.map (·.power) == [1431655765, 1431655765, 1431655765] &&
        !checkSigs (valsOf ethAddrBytes l) (powersOf l)
          (maskSlots [9] [true, true, false] (valsOf ethAddrBytes l)) [9] 2863311530 &&
        checkSigs (valsOf ethAddrBytes l) (powersOf l)
          (maskSlots [9] [true, true, true] (valsOf ethAddrBytes l)) [9] 2863311530
    | _ => false) = true := by
  have h : exHubThirds.currentSigners "eth" = .ok (exSet.map fun s => ⟨1431655765, s.addr⟩) := by rfl
  simp only [h, valsOf, powersOf, exSet, List.map, exAddrBytes]
  decide +kernel

/-- The situation of §5 in the real model: with the third validator keyless, the hub normalises the
    two keyed members against *their* total (2147483647 each, sum 2^32 − 2), and their joint
    signatures are accepted. -/
def exHubKeyless : Hub :=
  { chains := ["eth"], height := 7,
    staking := [⟨"aa", 1, true⟩, ⟨"bb", 1, true⟩, ⟨"cc", 1, true⟩],
    cs := [("eth", { valExt := [("aa", "0x00000000000000000000000000000000000000a1"),
                                ("bb", "0x00000000000000000000000000000000000000b1")] })] }

example : (match exHubKeyless.currentSigners "eth" with
    | .ok l => l.map (·.power) == [2147483647, 2147483647] &&
        checkSigs (valsOf ethAddrBytes l) (powersOf l)
          (maskSlots [9] [true, true] (valsOf ethAddrBytes l)) [9] 2863311530
    | _ => false) = true := by
  have h : exHubKeyless.currentSigners "eth" = .ok ((exSet.take 2).map fun s => ⟨2147483647, s.addr⟩) := by
    rfl
  simp only [h, valsOf, powersOf, exSet, List.take, List.map, exAddrBytes]
  decide +kernel

end Mhub2.C08Hub
