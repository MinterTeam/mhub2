/-
  C01 (closed loop) — BRIDGE SOLVENCY over every history of a world made of the hub model and an
  abstract ledger of the external custody (Lemmas/World.lean).

      for every bridged asset, the hub's circulating supply plus the value of all outgoing
      transfers still in flight never exceeds the amount of that asset held in external custody

  under the honest-quorum assumption: the hub applies exactly the events the external chains
  emitted, each once, in order (`lock` → `applyDeposit`, `execute` → `applyExec`).

  HYPOTHESES (explicit in every statement)
    H1 `ExecOk w op`  — on `applyExec` steps only: (a) a batch is still stored under the key of the
       oldest pending execution, (b) the handler succeeds; see the comment below.
       `solvency_reachable_clock` replaces (a) by the clock condition `NoTimeout`.
    H2 `Hub.Bounded` of every visited hub state (the id / nonce counters are `uint64`), and
       `Hub.VInv` of the INITIAL hub only (it is derived along the run).
  `RunOk dn w ops` is H1 + H2 along the history `ops` from `w`; `RunOkC` is H1(b) + `NoTimeout` + H2.

  WHAT IS MODELLED / NOT MODELLED.  One denom `dn`; the custody is one integer in common units (the
  sum over the external chains carrying `dn`).  The external contract is abstracted to what it does
  to the custody: a lock adds exactly the event's amount, an execution removes exactly `Σ amounts`
  of the batch and is possible only for a batch the hub stores, with a nonce above every pending
  execution of the same token (`execAllowed`).  Events are applied through `Hub.handle` directly
  (the vote bookkeeping of `tryRecord`, including the observed external height, is not touched), so
  the world has no clock: batch timeouts are not related to the moment of an execution.  The hub
  token table is fixed (`wstep_tokens`).
-/
import Props.C01
import Lemmas.World
namespace Mhub2.C01
open Mhub2

/-!
  ### H1 — why `ExecOk` is an assumption and not a theorem

  `ExecOk w (.applyExec …)` says: when the hub applies the oldest pending `batchExecuted` event of
  a batch `(chain, tok, n)` the contract paid out,
    (a) the hub still stores a batch under that key, `(findBatch chain tok n).isSome`;
    (b) the event handler succeeds as a whole (`.ok`).
  That the stored batch is then the very batch the contract executed is PROVED, not assumed: stored
  batches are immutable and batch nonces are never reused (`BatchFrame`, `PendOK`,
  `pending_batch_immutable`).

  (a) The hub withdraws a stored batch only in three places: `cleanupTimedOutBatches` (begin block)
  cancels it when `timeout < observed external height` (C13, `timeout_cancel_sound`); the handler of a
  LATER execution of the same token cancels every older batch; the handler of its own execution
  erases it.  The contract executes a batch only while `block.number < timeout` and only with a nonce
  above the last executed one (`Hub2St.submitBatch`), and the observed external height is the height
  of the last applied event, events being applied in emission order.  So when the execution event
  of the batch is applied, every event applied before it was emitted at a height `< timeout`, the
  batch has not timed out on the hub, and no later batch of the token was executed before it.  The
  world has no clock (neither `block.number` nor event heights are tied to each other), so the
  timeout half of this argument is NOT modelled; the nonce order is (`execAllowed`).  `runOk_of_clock`
  proves the rest of the argument: (a) holds at every step provided no hub operation runs while a
  pending execution's batch is timed out on the hub (`NoTimeout`).
  Without (a) solvency fails: if the hub has cancelled the batch, its transfers are back in the pool,
  will be refunded or batched again, and the payout is never written off
  (`applyExec_unsolvent_without_ExecOk`).

  (b) A handler that fails as a whole — `panicM "price not found"` when the oracle has no price for
  the base coin or the token, a commission / fee re-mint towards chain "minter" for a denom without
  a Minter token — is rolled back (`Hub.tryRecord`), the event counts as observed, and the batch
  stays in the hub although it was paid out: a KNOWN FINDING of the bridge, outside this theorem
  (`applyExec_unsolvent_when_handler_fails`).
-/

/-! ### Every step preserves the invariant -/

theorem solv_core_step (dn : String) (w : World) (op : WOp) (hv : w.hub.VInv)
    (hd : ∀ p ∈ w.pendingDeposits, isDeposit p.2 = true) (hs : SolvInv dn w) (hx : ExecSame w op)
    (hb : (wstep dn w op).hub.Bounded) :
    (wstep dn w op).hub.VInv ∧ (∀ p ∈ (wstep dn w op).pendingDeposits, isDeposit p.2 = true) ∧
      SolvInv dn (wstep dn w op) := by
  rcases wstep_cases dn w op with e | e
  · rw [e]; exact ⟨hv, hd, hs⟩
  generalize wstep dn w op = w' at e hb
  unfold SolvInv at hs ⊢
  cases e with
  | hubOp hok =>
    obtain ⟨hr, ht, hf, he⟩ := hubOpOk_spec hok
    have etk := (apply_vrel w.hub _ hr ht hf he dn).tokens
    have := value_step w.hub _ hv hb hr ht hf he dn
    refine ⟨inv_step w.hub _ hv hb hr ht, hd, ?_⟩
    simp only [depSum_of_tokens etk, execSum_of_tokens etk]
    omega
  | @expire _ h' hok =>
    have r := refundExpired_vrel hok dn
    have := refundExpired_value (h' := h') hv hb hok dn
    refine ⟨r.inv hv hb, hd, ?_⟩
    simp only [depSum_of_tokens r.tokens, execSum_of_tokens r.tokens]
    omega
  | lock hdp =>
    refine ⟨hv, fun p hp => ?_, ?_⟩
    · rcases List.mem_append.mp hp with h | h
      · exact hd p h
      · rw [List.mem_singleton.mp h]; exact hdp
    · simp only [depSum_snoc]
      omega
  | execute =>
    refine ⟨hv, hd, ?_⟩
    simp only [execSum_snoc]
    omega
  | @depositFail chain ev rest _ hpd =>
    have hdp : isDeposit ev = true := hd (chain, ev) (by rw [hpd]; exact List.mem_cons_self)
    have := lockValue_nonneg w.hub dn chain hdp
    rw [hpd, depSum_cons] at hs
    exact ⟨hv, fun q hq => hd q (by rw [hpd]; exact List.mem_cons_of_mem _ hq), by simp only at hs ⊢; omega⟩
  | @deposit _ _ _ h' hpd hok =>
    have etk := (handle_vrel hok dn).tokens
    have := handle_value (h' := h') hv hb hok dn
    rw [hpd, depSum_cons, lockValue_eq_depositCredit] at hs
    refine ⟨handle_inv hv hb hok, fun q hq => hd q (by rw [hpd]; exact List.mem_cons_of_mem _ hq), ?_⟩
    simp only [depSum_of_tokens etk, execSum_of_tokens etk] at hs ⊢
    omega
  | @exec evn ht tx fp payer p rest h' hpe hok =>
    -- the batch found is the batch that was paid out, and it is written off
    obtain ⟨hfb, _⟩ := hx p rest hpe
    obtain ⟨t, htk, _⟩ := batchExecuted_vrel (h' := h') hok hfb dn
    have := batchExecuted_value (h' := h') hv hb hok hfb htk dn
    have e0 : execValue w.hub dn p =
        if t.denom = dn then extValue t (sumInts (p.batch.txs.map (·.amount))) else 0 := by
      unfold execValue tokValue; rw [htk]
    have etk := (handle_vrel hok dn).tokens
    rw [hpe, execSum_cons] at hs
    refine ⟨handle_inv hv hb hok, hd, ?_⟩
    simp only [depSum_of_tokens etk, execSum_of_tokens etk] at hs ⊢
    omega
  | execFail hpe hok =>
    obtain ⟨_, h', hok'⟩ := hx _ _ hpe
    rw [hok] at hok'
    cases hok'

theorem winv_step (dn : String) (w : World) (op : WOp) (hi : WInv dn w) (hx : ExecOk w op)
    (hb : (wstep dn w op).hub.Bounded) : WInv dn (wstep dn w op) := by
  obtain ⟨h1, h2, h3⟩ :=
    solv_core_step dn w op hi.vinv hi.deps hi.solv (execSame_of_execOk hi.pend hx) hb
  exact ⟨h1, h2, pend_step dn w op hi.pend h1.led hb, h3⟩

/-- The hypotheses on the pending deposits and executions are established by `lock` / `execute` and
    preserved by every step (`winv_step`). -/
theorem solvency_inv_step (dn : String) (w : World) (op : WOp) (hv : w.hub.VInv)
    (hd : ∀ p ∈ w.pendingDeposits, isDeposit p.2 = true) (hp : ∀ p ∈ w.pendingExecs, PendOK w.hub p)
    (hx : ExecOk w op) (hb : (wstep dn w op).hub.Bounded) (hs : SolvInv dn w) :
    SolvInv dn (wstep dn w op) :=
  (winv_step dn w op ⟨hv, hd, hp, hs⟩ hx hb).solv

/-- BATCHES ARE IMMUTABLE AND NONCES ARE NOT REUSED: along any world history, whatever the hub stores
    under the key of a pending execution is the batch that was executed. -/
theorem pending_batch_immutable (dn : String) (w : World) (hi : WInv dn w) (p : PendingExec)
    (hp : p ∈ w.pendingExecs) (b' : Batch) (hfb : w.hub.findBatch p.chain p.tok p.nonce = some b') :
    b' = p.batch :=
  findBatch_of_pendOK (hi.pend p hp) hfb

/-! ### Every history -/

theorem winv_run (dn : String) (ops : List WOp) (w : World) (hi : WInv dn w) (hr : RunOk dn w ops) :
    WInv dn (wrun dn w ops) := by
  induction ops generalizing w with
  | nil => exact hi
  | cons op ops ih =>
    obtain ⟨hx, hb, hr'⟩ := hr
    exact ih _ (winv_step dn w op hi hx hb) hr'

def initWorld (h0 : Hub) (c0 : Int) : World := { hub := h0, custody := c0 }

theorem winv_init {dn : String} {h0 : Hub} {c0 : Int} (hv : h0.VInv) (hc : h0.value dn ≤ c0) :
    WInv dn (initWorld h0 c0) :=
  ⟨hv, fun _ hp => (by cases hp), fun _ hp => (by cases hp), (by unfold SolvInv initWorld; simpa using hc)⟩

/-- SOLVENCY ALONG EVERY HISTORY.  From a hub satisfying the standing hypotheses whose value of
    `dn` is covered by the custody, after any sequence of world operations satisfying H1 and H2:
    hub value + pending deposits ≤ custody + pending (paid, not yet written off) executions. -/
theorem solvency_reachable (dn : String) (h0 : Hub) (c0 : Int) (hv : h0.VInv) (hc : h0.value dn ≤ c0)
    (ops : List WOp) (hr : RunOk dn (initWorld h0 c0) ops) : SolvInv dn (wrun dn (initWorld h0 c0) ops) :=
  (winv_run dn ops _ (winv_init hv hc) hr).solv

/-- Pending deposits only add slack: the hub's value is covered by the custody plus what was paid out
    for the executions not yet observed. -/
theorem solvency_reachable_weak (dn : String) (h0 : Hub) (c0 : Int) (hv : h0.VInv) (hc : h0.value dn ≤ c0)
    (ops : List WOp) (hr : RunOk dn (initWorld h0 c0) ops) :
    (wrun dn (initWorld h0 c0) ops).hub.value dn ≤
      (wrun dn (initWorld h0 c0) ops).custody +
        execSum (wrun dn (initWorld h0 c0) ops).hub dn (wrun dn (initWorld h0 c0) ops).pendingExecs := by
  obtain ⟨_, hd, _, hs⟩ := winv_run dn ops _ (winv_init hv hc) hr
  have := depSum_nonneg (wrun dn (initWorld h0 c0) ops).hub dn hd
  unfold SolvInv at hs
  omega

/-- COROLLARY: when the hub has observed everything (nothing in transit), circulating supply (in
    common units) plus everything in flight is at most the custody. -/
theorem fully_observed_solvent (dn : String) (h0 : Hub) (c0 : Int) (hv : h0.VInv) (hc : h0.value dn ≤ c0)
    (ops : List WOp) (hr : RunOk dn (initWorld h0 c0) ops)
    (hpd : (wrun dn (initWorld h0 c0) ops).pendingDeposits = [])
    (hpe : (wrun dn (initWorld h0 c0) ops).pendingExecs = []) :
    (wrun dn (initWorld h0 c0) ops).hub.supplyOf dn * unitOf hubDecimals +
      (wrun dn (initWorld h0 c0) ops).hub.inflight dn ≤ (wrun dn (initWorld h0 c0) ops).custody := by
  have hs := solvency_reachable dn h0 c0 hv hc ops hr
  unfold SolvInv at hs
  rw [hpd, hpe] at hs
  simpa [Hub.value] using hs

theorem executions_observed_solvent (dn : String) (h0 : Hub) (c0 : Int) (hv : h0.VInv) (hc : h0.value dn ≤ c0)
    (ops : List WOp) (hr : RunOk dn (initWorld h0 c0) ops)
    (hpe : (wrun dn (initWorld h0 c0) ops).pendingExecs = []) :
    (wrun dn (initWorld h0 c0) ops).hub.value dn ≤ (wrun dn (initWorld h0 c0) ops).custody := by
  have := solvency_reachable_weak dn h0 c0 hv hc ops hr
  rw [hpe] at this
  simpa using this

/-! ### H1(a) is the timeout condition

  The first half of H1 — the executed batch is still stored when its execution event is applied —
  follows from: the pending executions of a token are in nonce order (enforced by `execAllowed`),
  stored batches are immutable, and NO HUB OPERATION RUNS WHILE A PENDING EXECUTION'S BATCH IS
  TIMED OUT ON THE HUB (`NoTimeout`: `¬ timeout < observed external height`).  Hub operations
  withdraw only timed-out batches (`apply_bkeep`, from `cleanup_evo`, the lemma under C13), an applied execution
  withdraws only its own batch and older batches of its token (`batchExecuted_keep`), nothing else
  withdraws a batch.  `NoTimeout` is what the contract's `block.number < timeout` and the in-order
  application of events give on the real bridge; it stays a hypothesis because the world has no
  clock.  What remains of H1 is (b), `HandlerOk`: the known finding. -/

theorem winvC_step (dn : String) (w : World) (op : WOp) (hi : WInvC dn w) (hh : HandlerOk w op)
    (hn : NoTimeout w op) (hb : (wstep dn w op).hub.Bounded) : WInvC dn (wstep dn w op) := by
  obtain ⟨h1, h2⟩ := stored_step dn w op hi.inv hi.stored hi.ord hn hb
  exact ⟨winv_step dn w op hi.inv (execOk_of_stored hi.inv hi.stored hh) hb, h1, h2⟩

theorem runOk_of_clock (dn : String) (ops : List WOp) (w : World) (hi : WInvC dn w) (hr : RunOkC dn w ops) :
    RunOk dn w ops := by
  induction ops generalizing w with
  | nil => trivial
  | cons op ops ih =>
    obtain ⟨hh, hn, hb, hr'⟩ := hr
    exact ⟨execOk_of_stored hi.inv hi.stored hh, hb, ih _ (winvC_step dn w op hi hh hn hb) hr'⟩

theorem winvC_init {dn : String} {h0 : Hub} {c0 : Int} (hv : h0.VInv) (hc : h0.value dn ≤ c0) :
    WInvC dn (initWorld h0 c0) :=
  ⟨winv_init hv hc, fun _ hp => (by cases hp), List.Pairwise.nil⟩

/-- SOLVENCY ALONG EVERY HISTORY, with H1(a) replaced by the clock condition. -/
theorem solvency_reachable_clock (dn : String) (h0 : Hub) (c0 : Int) (hv : h0.VInv) (hc : h0.value dn ≤ c0)
    (ops : List WOp) (hr : RunOkC dn (initWorld h0 c0) ops) : SolvInv dn (wrun dn (initWorld h0 c0) ops) :=
  solvency_reachable dn h0 c0 hv hc ops (runOk_of_clock dn ops _ (winvC_init hv hc) hr)

theorem fully_observed_solvent_clock (dn : String) (h0 : Hub) (c0 : Int) (hv : h0.VInv) (hc : h0.value dn ≤ c0)
    (ops : List WOp) (hr : RunOkC dn (initWorld h0 c0) ops)
    (hpd : (wrun dn (initWorld h0 c0) ops).pendingDeposits = [])
    (hpe : (wrun dn (initWorld h0 c0) ops).pendingExecs = []) :
    (wrun dn (initWorld h0 c0) ops).hub.supplyOf dn * unitOf hubDecimals +
      (wrun dn (initWorld h0 c0) ops).hub.inflight dn ≤ (wrun dn (initWorld h0 c0) ops).custody :=
  fully_observed_solvent dn h0 c0 hv hc ops (runOk_of_clock dn ops _ (winvC_init hv hc) hr) hpd hpe

/-! ### Value grows only by what an observed deposit locked -/

/-- The value a step may add to the hub: the collateral locked for the deposit event an
    `applyDeposit` step applies (nothing if the handler rejects it: the hub is unchanged); nothing
    for any other step. -/
def stepCredit (dn : String) (w : World) : WOp → Int
  | .applyDeposit =>
    match w.pendingDeposits with
    | (chain, ev) :: _ =>
      match w.hub.handle false chain ev with
      | .ok _ => lockValue w.hub dn chain ev
      | .error _ => 0
    | [] => 0
  | _ => 0

/-- In an `applyDeposit` step the hub's value of `dn` (supply + in flight) grows by at most the
    value locked for the applied event; in every other step it does not grow at all.  (No H1 needed:
    an execution event never adds value, whatever the hub stores.) -/
theorem supply_grows_only_by_locked (dn : String) (w : World) (op : WOp) (hv : w.hub.VInv)
    (hb : (wstep dn w op).hub.Bounded) :
    (wstep dn w op).hub.value dn ≤ w.hub.value dn + stepCredit dn w op := by
  by_cases hop : op = .applyDeposit
  · subst hop
    cases hpd : w.pendingDeposits with
    | nil => simp only [wstep, hpd, stepCredit]; omega
    | cons p rest =>
      obtain ⟨chain, ev⟩ := p
      cases hok : w.hub.handle false chain ev with
      | error e => simp only [wstep, hpd, hok, stepCredit]; omega
      | ok h' =>
        simp only [wstep, hpd, hok, stepCredit] at hb ⊢
        rw [lockValue_eq_depositCredit]
        exact handle_value hv hb hok dn
  · have h0 : stepCredit dn w op = 0 := by
      cases op <;> first | rfl | exact absurd rfl hop
    rw [h0, Int.add_zero]
    rcases wstep_cases dn w op with e | e
    · rw [e]; exact Int.le_refl _
    generalize wstep dn w op = w' at e hb
    cases e with
    | hubOp hok =>
      obtain ⟨hr, ht, hf, he⟩ := hubOpOk_spec hok
      exact value_step w.hub _ hv hb hr ht hf he dn
    | expire hok => exact refundExpired_value hv hb hok dn
    | exec _ hok =>
      -- an execution event has no deposit credit
      have := handle_value hv hb hok dn
      rw [show Hub.depositCredit _ _ _ _ (.batchExecuted ..) = 0 from rfl] at this
      omega
    | deposit | depositFail => exact absurd rfl hop
    | lock | execute | execFail => exact Int.le_refl _

/-- "Exactly the amount locked": an accepted plain deposit (`sendToHub`) of a token whose conversion
    to hub units is exact (at most 18 decimals, or an amount that is a multiple of `10^(dec-18)`)
    adds EXACTLY the value locked — `fromExt dec amount` hub units are minted.  (With more than 18
    decimals and a non-multiple the floor division leaves dust in custody: `fromExt_value_le`.) -/
theorem applyDeposit_sendToHub_exact (dn : String) (w : World) (hv : w.hub.VInv) {chain coin sender receiver tx : String}
    {n ht : Nat} {amount : Int} {rest : List (String × Event)} {t : TokenInfo} {h' : Hub}
    (hpd : w.pendingDeposits = (chain, .sendToHub n coin amount sender receiver ht tx) :: rest)
    (hok : w.hub.handle false chain (.sendToHub n coin amount sender receiver ht tx) = .ok h')
    (htk : w.hub.tokenByExt chain coin = some t) (hex : t.dec ≤ 18 ∨ pow10 (t.dec - 18) ∣ amount) :
    (wstep dn w .applyDeposit).hub.value dn =
      w.hub.value dn + lockValue w.hub dn chain (.sendToHub n coin amount sender receiver ht tx) ∧
    (wstep dn w .applyDeposit).hub.supplyOf t.denom = w.hub.supplyOf t.denom + fromExt t.dec amount := by
  have e : (wstep dn w .applyDeposit).hub = h' := by simp only [wstep, hpd, hok]
  rw [e]
  have hok' : w.hub.handleSendToHub chain coin amount receiver tx = .ok h' := by
    simpa only [Hub.handle] using hok
  have hd : t.dec ≤ 36 := hv.tok.dec_le t (tokenByExt_some htk).1
  refine ⟨?_, ?_⟩
  · rw [handleSendToHub_value_eq hok' htk dn]
    simp only [lockValue, tokValue, htk, hubCredit, extValue]
    split
    · rw [fromExt_value_eq hd amount hex]
    · rfl
  · obtain ⟨t', ht', _, rfl⟩ := handleSendToHub_eq hok'
    rw [htk] at ht'
    injection ht' with ht'
    subst ht'
    show (w.hub.bankWrite receiver t.denom (fromExt t.dec amount)).supplyOf t.denom = _
    rw [bankWrite_supply, if_pos rfl]

/-! ### Non-vacuity: one 6-decimals token, the whole loop -/

def wxTok : TokenInfo := ⟨1, "hub", "e", "T", 6, 0⟩

/-- Genesis: chain "e" carrying denom "hub" as the 6-decimals token "T"; no voucher exists. -/
def wxHub : Hub := runOps [.chains ["e"], .token wxTok]

/-- A user locks 5 000 000 external units (5 coins); the hub applies the deposit (mints 5·10^18);
    the holder sends 1.234… + fee 1.000… back out; block 2 begins and batches the transfer
    (batch nonce 1); a relayer executes the batch on chain "e" (1 234 567 units paid out); the hub
    applies the execution event. -/
def wxOps : List WOp := [
  .lock "e" (.sendToHub 1 "T" 5000000 "s" "a" 10 "d"),
  .applyDeposit,
  .hubOp (.send "a" "e" "r" "hub" 1234567890123456789 1000000000000000001 "x"),
  .hubOp (.block 2 100),
  .hubOp .beginBlock,
  .execute "e" "T" 1,
  .applyExec 2 11 "b" 0 "p"]

def wx (n : Nat) : World := wrun "hub" (initWorld wxHub 0) (wxOps.take n)

theorem wxHub_vinv : wxHub.VInv :=
  vinv_reachable _ (Hub.bounded_of_all (by decide +kernel))
    ⟨by decide +kernel, by decide +kernel, by decide +kernel, by decide +kernel⟩ (by decide +kernel)

theorem wx_runOk : RunOk "hub" (initWorld wxHub 0) wxOps := runOk_of_B (by decide +kernel)

example : SolvInv "hub" (wx 7) :=
  solvency_reachable "hub" wxHub 0 wxHub_vinv (by decide +kernel) wxOps wx_runOk

example : (wx 7).hub.supplyOf "hub" * unitOf hubDecimals + (wx 7).hub.inflight "hub" ≤ (wx 7).custody :=
  fully_observed_solvent "hub" wxHub 0 wxHub_vinv (by decide +kernel) wxOps wx_runOk
    (by decide +kernel) (by decide +kernel)

/-- After the lock: custody 5·10^36, one deposit pending. -/
example : (wx 1).hub.value "hub" = 0 ∧ (wx 1).custody = 5000000 * unitOf 6 ∧
    depSum (wx 1).hub "hub" (wx 1).pendingDeposits = 5000000 * unitOf 6 ∧
    (wx 1).pendingDeposits.length = 1 := by decide +kernel

/-- After the deposit is applied: supply 5·10^18 hub units = the custody exactly. -/
example : (wx 2).hub.supplyOf "hub" = 5000000000000000000 ∧
    (wx 2).hub.value "hub" = (wx 2).custody ∧ (wx 2).pendingDeposits.length = 0 := by decide +kernel

/-- After the send and the batching: 2 234 567 external units in flight in batch 1, the rounding dust
    (890123456790 hub units) is slack. -/
example : (wx 5).hub.supplyOf "hub" = 2765432109876543210 ∧
    (wx 5).hub.inflight "hub" = 2234567 * unitOf 6 ∧
    (wx 5).hub.value "hub" = 4999999109876543210 * unitOf 18 ∧
    ((wx 5).hub.chain "e").batches.length = 1 ∧ ((wx 5).hub.chain "e").pool.length = 0 ∧
    (wx 5).custody = 5000000 * unitOf 6 := by decide +kernel

/-- After the external execution: the custody dropped by the 1 234 567 units paid out; the hub has
    not seen it yet, so its value exceeds the custody — covered by the pending execution. -/
example : (wx 6).custody = 3765433 * unitOf 6 ∧
    execSum (wx 6).hub "hub" (wx 6).pendingExecs = 1234567 * unitOf 6 ∧
    (wx 6).custody < (wx 6).hub.value "hub" ∧
    (wx 6).hub.value "hub" ≤ (wx 6).custody + execSum (wx 6).hub "hub" (wx 6).pendingExecs := by
  decide +kernel

/-- After the execution event is applied: nothing in flight, nothing pending,
    supply 2.765…·10^36 ≤ custody 3.765…·10^36 (the slack is the 1 000 000 units of fee kept in
    custody — chain "e" has no base-coin price, the fee is not re-minted — plus the dust). -/
example : (wx 7).hub.supplyOf "hub" = 2765432109876543210 ∧ (wx 7).hub.inflight "hub" = 0 ∧
    (wx 7).hub.value "hub" = 2765432109876543210 * unitOf 18 ∧
    (wx 7).custody = 3765433 * unitOf 6 ∧ (wx 7).pendingExecs.length = 0 ∧
    ((wx 7).hub.chain "e").batches.length = 0 ∧
    (wx 7).hub.value "hub" ≤ (wx 7).custody := by decide +kernel

example : (wx 2).hub.value "hub" = (wx 1).hub.value "hub" + stepCredit "hub" (wx 1) .applyDeposit := by
  decide +kernel

/-- The same loop with two more blocks beginning (block 4 batches again: nothing left) while the
    execution event is in transit.  H1(b), the clock condition (the batch's timeout 0 is not below
    the observed external height 0) and H2 hold, so `solvency_reachable_clock` applies: H1(a) is
    derived, not checked. -/
def wyOps : List WOp := wxOps.take 6 ++
  [.hubOp (.block 3 105), .hubOp .beginBlock, .hubOp (.block 4 110), .hubOp .beginBlock,
   .applyExec 2 11 "b" 0 "p"]

theorem wy_runOkC : RunOkC "hub" (initWorld wxHub 0) wyOps := runOkC_of_B (by decide +kernel)

example : SolvInv "hub" (wrun "hub" (initWorld wxHub 0) wyOps) :=
  solvency_reachable_clock "hub" wxHub 0 wxHub_vinv (by decide +kernel) wyOps wy_runOkC

example : (wrun "hub" (initWorld wxHub 0) (wyOps.take 10)).pendingExecs.length = 1 ∧
    ((wrun "hub" (initWorld wxHub 0) (wyOps.take 10)).hub.chain "e").batches.length = 1 ∧
    (wrun "hub" (initWorld wxHub 0) wyOps).pendingExecs.length = 0 ∧
    ((wrun "hub" (initWorld wxHub 0) wyOps).hub.chain "e").batches.length = 0 ∧
    (wrun "hub" (initWorld wxHub 0) wyOps).hub.value "hub" = 2765432109876543210 * unitOf 18 ∧
    (wrun "hub" (initWorld wxHub 0) wyOps).custody = 3765433 * unitOf 6 := by decide +kernel

/-! ### H1 is necessary: the two ways an execution event can fail to write the payout off -/

/-- (a) THE BATCH WAS WITHDRAWN MEANWHILE.  The hub starts with an observed external height 5 on
    chain "e" but no observed cosmos height, so `batchTimeoutHeight` is 0: the batch created at
    block 2 has timeout 0 `< 5` and the begin block of block 3 cancels it — after a relayer has
    executed it externally (which the real contract forbids: `block.number < timeout`).  The
    execution event then finds no batch, the handler returns the state unchanged, the transfer is
    back in the pool and its sender cancels it: the 1 234 567 units were paid out AND refunded. -/
def caHub : Hub := { wxHub with cs := [("e", { obsExtHeight := 5 })] }

def caOps : List WOp := [
  .lock "e" (.sendToHub 1 "T" 5000000 "s" "a" 10 "d"),
  .applyDeposit,
  .hubOp (.send "a" "e" "r" "hub" 1234567890123456789 1000000000000000001 "x"),
  .hubOp (.block 2 100),
  .hubOp .beginBlock,
  .execute "e" "T" 1,
  .hubOp (.block 3 105),
  .hubOp .beginBlock,
  .applyExec 2 11 "b" 0 "p",
  .hubOp (.cancel "a" "e" 1)]

def ca (n : Nat) : World := wrun "hub" (initWorld caHub 0) (caOps.take n)

theorem caHub_chain (c : String) : (caHub.chain c).pool = [] ∧ (caHub.chain c).batches = [] := by
  unfold Hub.chain caHub
  simp only [alGet]
  split <;> exact ⟨rfl, rfl⟩

theorem caHub_vinv : caHub.VInv := by
  refine ⟨⟨by decide +kernel, by decide +kernel, by decide +kernel, by decide +kernel⟩, by decide +kernel,
    Hub.ledgerInv_of_all (by decide +kernel), ⟨fun c s hs => ?_, wxHub_vinv.ent.bal.of_bal rfl, fun c b hb => ?_⟩⟩
  · have := caHub_chain c
    simp [ChainSt.entries, this.1, this.2] at hs
  · rw [(caHub_chain c).2] at hb; cases hb

/-- H1 and H2 hold for the first eight steps and `ExecOk` fails at the ninth (the `applyExec`):
    the batch is gone although the handler succeeds.  Nothing is pending afterwards and the hub's
    value exceeds the custody; after the cancel the circulating supply alone does. -/
theorem applyExec_unsolvent_without_ExecOk :
    runOkB "hub" (initWorld caHub 0) (caOps.take 8) = true ∧
    execOkB (ca 8) (.applyExec 2 11 "b" 0 "p") = false ∧
    (ca 8).hub.findBatch "e" "T" 1 = none ∧
    (match (ca 8).hub.handle false "e" (.batchExecuted "T" 2 1 11 "b" 0 "p") with
      | .ok _ => true | .error _ => false) = true ∧
    (ca 9).pendingDeposits.length = 0 ∧ (ca 9).pendingExecs.length = 0 ∧
    (ca 9).custody = 3765433 * unitOf 6 ∧ (ca 9).hub.value "hub" = 4999999109876543210 * unitOf 18 ∧
    (ca 9).custody < (ca 9).hub.value "hub" ∧
    (ca 10).hub.supplyOf "hub" = 4999999109876543210 ∧
    (ca 10).custody < (ca 10).hub.supplyOf "hub" * unitOf hubDecimals := by decide +kernel

/-- In that history it is the clock condition that fails: hub operations run at steps 7 and 8 while
    the executed batch (timeout 0) is timed out on the hub (observed external height 5). -/
example : runOkCB "hub" (initWorld caHub 0) (caOps.take 6) = true ∧
    noTimeoutB (ca 6) (.hubOp (.block 3 105)) = false ∧ noTimeoutB (ca 7) (.hubOp .beginBlock) = false := by
  decide +kernel

/-- (b) THE HANDLER FAILS AS A WHOLE (known finding).  The same history on chain "bsc" without oracle
    prices: `batchTxExecuted` panics with "price not found" when it tries to reimburse the relayer,
    the event handler's writes are rolled back, the event counts as applied, and the batch stays
    in the hub although it was paid out. -/
def cbHub : Hub := runOps [.chains ["bsc"], .token ⟨1, "hub", "bsc", "T", 6, 0⟩]

def cbOps : List WOp := [
  .lock "bsc" (.sendToHub 1 "T" 5000000 "s" "a" 10 "d"),
  .applyDeposit,
  .hubOp (.send "a" "bsc" "r" "hub" 1234567890123456789 1000000000000000001 "x"),
  .hubOp (.block 2 100),
  .hubOp .beginBlock,
  .execute "bsc" "T" 1,
  .applyExec 2 11 "b" 0 "p"]

def cb (n : Nat) : World := wrun "hub" (initWorld cbHub 0) (cbOps.take n)

theorem applyExec_unsolvent_when_handler_fails :
    runOkB "hub" (initWorld cbHub 0) (cbOps.take 6) = true ∧
    execOkB (cb 6) (.applyExec 2 11 "b" 0 "p") = false ∧
    (cb 6).hub.findBatch "bsc" "T" 1 = ((cb 6).pendingExecs.head?.map (·.batch)) ∧
    (match (cb 6).hub.handle false "bsc" (.batchExecuted "T" 2 1 11 "b" 0 "p") with
      | .error (.panic "price not found") => true | _ => false) = true ∧
    (cb 7).pendingDeposits.length = 0 ∧ (cb 7).pendingExecs.length = 0 ∧
    ((cb 7).hub.chain "bsc").batches.length = 1 ∧
    (cb 7).custody = 3765433 * unitOf 6 ∧ (cb 7).hub.value "hub" = 4999999109876543210 * unitOf 18 ∧
    (cb 7).custody < (cb 7).hub.value "hub" :=
  -- The third conjunct by `rfl`: both sides unfold to the batch `execute` copied out of the hub,
  -- which `decide` would evaluate field by field on either side.
  ⟨by decide +kernel, by decide +kernel, by with_unfolding_all rfl, by decide +kernel⟩

/-- This genesis state satisfies the standing hypotheses too (so only H1 is missing). -/
theorem cbHub_vinv : cbHub.VInv :=
  vinv_reachable _ (Hub.bounded_of_all (by decide +kernel))
    ⟨by decide +kernel, by decide +kernel, by decide +kernel, by decide +kernel⟩ (by decide +kernel)

end Mhub2.C01
