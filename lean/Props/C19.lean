/-
  C19 — Fees and commissions are distributed within what was collected.
  `reimbursement`, `goodFees`, `refundShare`, `commissionShare`, `feeKept` (Mhub2/Ledger) are the
  functions `Hub.batchExecuted` (the executable model) calls.
-/
import Mhub2.Ledger
import Mhub2.Generated.Facts
import Lemmas.Fees
namespace Mhub2.C19
open Mhub2

/-- The relayer reimbursement is the smaller of the gas cost and the fees collected. -/
theorem reimbursement_le_total (cost total : Int) :
    reimbursement cost total ≤ total ∧ reimbursement cost total ≤ cost ∧
    (reimbursement cost total = total ∨ reimbursement cost total = cost) := by
  unfold reimbursement; split <;> omega

/-- What is left after the reimbursement never exceeds the fees of the transfers that paid at
    least the average (`fees` in hub units, all non-negative). -/
theorem feeLeft_le_good (fees : List Int) (fee : Int) (hnn : ∀ c ∈ fees, 0 ≤ c)
    (hfee0 : 0 ≤ fee) (hlen : 0 < fees.length) :
    sumInts fees - fee ≤ goodFees fees (Int.tdiv fee fees.length) := by
  -- Σ fees = good + bad, and bad ≤ (#fees)·avg ≤ fee
  have havg : Int.tdiv fee fees.length * fees.length ≤ fee := by
    rw [Int.tdiv_eq_ediv_of_nonneg hfee0]
    exact Int.ediv_mul_le _ (by omega)
  have havg0 : 0 ≤ Int.tdiv fee fees.length := Int.tdiv_nonneg hfee0 (by omega)
  generalize Int.tdiv fee fees.length = avg at havg havg0
  -- for every list (the average stays fixed): what is not in `goodFees` is below `avg` each
  have key : ∀ (l : List Int), (∀ c ∈ l, 0 ≤ c) →
      sumInts l ≤ goodFees l avg + avg * l.length := by
    intro l hl
    induction l with
    | nil => simp [goodFees]
    | cons c cs ih =>
      have ihh := ih (fun y hy => hl y (by simp [hy]))
      have hlen : avg * (((c :: cs).length : Nat) : Int) = avg * (cs.length : Int) + avg := by
        simp only [List.length_cons, Int.natCast_add, Int.mul_add]; simp
      rw [hlen, sumInts_cons]
      unfold goodFees at ihh ⊢
      rw [List.filter_cons]
      by_cases hge : c ≥ avg
      · rw [if_pos (decide_eq_true hge), sumInts_cons]
        omega
      · rw [if_neg fun h => hge (of_decide_eq_true h)]
        omega
  have := key fees hnn
  have h2 : avg * (fees.length : Int) ≤ fee := havg
  omega

/-- A fee refund is never negative and never more than the fee that transfer paid. -/
theorem refund_le_paid {feeLeft cf good : Int} (h0 : 0 ≤ feeLeft) (hle : feeLeft ≤ good)
    (hcf : 0 ≤ cf) (hg : 0 < good) :
    0 ≤ refundShare feeLeft cf good ∧ refundShare feeLeft cf good ≤ cf := by
  unfold refundShare
  have hnn : 0 ≤ feeLeft * cf := Int.mul_nonneg h0 hcf
  rw [Int.tdiv_eq_ediv_of_nonneg hnn]
  constructor
  · exact Int.ediv_nonneg hnn (by omega)
  · have : feeLeft * cf ≤ good * cf := Int.mul_le_mul_of_nonneg_right hle hcf
    calc feeLeft * cf / good ≤ good * cf / good := Int.ediv_le_ediv hg this
      _ = cf := Int.mul_ediv_cancel_left cf (by omega)

/-- Truncated pro-rata shares `V·c/G` of non-negative `c` that add up to `G` sum to at most `V`:
    the shape of both the fee refunds and the commission split. -/
theorem shares_sum_le {V G : Int} (hV : 0 ≤ V) (hG : 0 < G) {cs : List Int} (hnn : ∀ c ∈ cs, 0 ≤ c)
    (hsum : sumInts cs = G) : sumInts (cs.map fun c => Int.tdiv (V * c) G) ≤ V := by
  have hmap : (cs.map fun c => Int.tdiv (V * c) G) = cs.map fun c => (V * c) / G :=
    List.map_congr_left fun c hc => Int.tdiv_eq_ediv_of_nonneg (Int.mul_nonneg hV (hnn c hc))
  have := sum_floor_le V G hG cs
  rw [hsum, Int.mul_ediv_cancel _ (by omega)] at this
  rw [hmap]
  exact this

/-- All refunds of a batch together stay within what was left of the fees. -/
theorem refunds_sum_le_feeLeft (feeLeft avg : Int) (fees : List Int) (h0 : 0 ≤ feeLeft)
    (hnn : ∀ c ∈ fees, 0 ≤ c) (hg : 0 < goodFees fees avg) :
    sumInts ((fees.filter fun f => f ≥ avg).map fun c => refundShare feeLeft c (goodFees fees avg)) ≤ feeLeft :=
  shares_sum_le h0 hg (fun c hc => hnn c (List.mem_filter.mp hc).1) rfl

/-- Validator commission shares are proportional to power (each within one unit below the exact
    proportion) … -/
theorem commission_share_proportional (V : Int) (p P : Nat) (hV : 0 ≤ V) (hP : 0 < P) :
    commissionShare V p P * P ≤ V * p ∧ V * p < (commissionShare V p P + 1) * P := by
  unfold commissionShare
  have hnn : 0 ≤ V * (p : Int) := Int.mul_nonneg hV (by omega)
  rw [Int.tdiv_eq_ediv_of_nonneg hnn]
  exact floor_bounds (V * p) (by omega)

/-- … and sum to at most the commission collected. -/
theorem commission_split_le (V : Int) (ps : List Nat) (hV : 0 ≤ V) (hP : 0 < sumNats ps) :
    sumInts (ps.map fun p => commissionShare V p (sumNats ps)) ≤ V := by
  have := shares_sum_le hV (by omega : (0 : Int) < ((sumNats ps : Nat) : Int))
    (cs := ps.map fun (p : Nat) => (p : Int)) (fun c hc => by
      obtain ⟨p, _, rfl⟩ := List.mem_map.mp hc
      omega) (sumInts_map_natCast ps)
  rwa [List.map_map] at this

/-- The fee record (external units) stays between zero and the fee paid, for every decimals
    setting, when the refund (hub units) is within the fee paid (hub units). -/
theorem fee_record_range (d : Nat) {paidExt refundHub : Int} (_hp : 0 ≤ paidExt) (hr0 : 0 ≤ refundHub)
    (hr : refundHub ≤ fromExt d paidExt) :
    0 ≤ feeKept paidExt (toExt d refundHub) ∧ feeKept paidExt (toExt d refundHub) ≤ paidExt := by
  unfold feeKept
  by_cases hd : d < 18
  · have h1 := fromExt_le18 (Nat.le_of_lt hd) paidExt
    rw [toExt_lt18 hd]
    have hpos := pow10_pos (18 - d)
    have hnn : 0 ≤ refundHub / pow10 (18 - d) := Int.ediv_nonneg hr0 (by omega)
    have hle : refundHub / pow10 (18 - d) ≤ paidExt := by
      rw [h1] at hr
      calc refundHub / pow10 (18 - d) ≤ paidExt * pow10 (18 - d) / pow10 (18 - d) := Int.ediv_le_ediv hpos hr
        _ = paidExt := Int.mul_ediv_cancel _ (by omega)
    omega
  · have hd' : 18 ≤ d := by omega
    rw [toExt_ge18 hd']
    have hpos := pow10_pos (d - 18)
    have hnn : 0 ≤ refundHub * pow10 (d - 18) := Int.mul_nonneg hr0 (by omega)
    have hle : refundHub * pow10 (d - 18) ≤ paidExt := by
      by_cases h18 : d = 18
      · subst h18
        have : fromExt 18 paidExt = paidExt := by simp [fromExt, convertDecimals, hubDecimals]
        rw [this] at hr
        simp [pow10]; omega
      · have hgt : 18 < d := by omega
        rw [fromExt_gt18 hgt] at hr
        calc refundHub * pow10 (d - 18) ≤ paidExt / pow10 (d - 18) * pow10 (d - 18) :=
              Int.mul_le_mul_of_nonneg_right hr (by omega)
          _ ≤ paidExt := Int.ediv_mul_le _ (by omega)
    omega

/-- Bridge lemmas: the source expressions behind `reimbursement`, `refundShare`, `feeKept`. -/
theorem fact_executed_arith : Generated.executed_arith =
    "amount := totalValCommission.Amount.Mul(sdk.NewIntFromUint64(val.Power)).Quo(sdk.NewIntFromUint64(totalPower)) | amount := feePaid.ToDec(). Mul(k.oracleKeeper.MustGetTokenPrice(ctx, externalBaseCoin)). Quo(k.oracleKeeper.MustGetTokenPrice(ctx, tokenInfo.Denom)). MulInt64(150). QuoInt64(100). TruncateInt() | fee := sdk.NewCoin(tokenInfo.Denom, amount) | fee := totalFee | feeLeft := totalFee.Sub(fee) | averageFeePaid := fee.Amount.QuoRaw(int64(len(batchTx.Transactions))) | toRefund := feeLeft.Amount.Mul(convertedTxFee).Quo(totalGoodFeePaid) | record.ExternalFee := record.ExternalFee.Sub(k.ConvertToExternalValue(ctx, chainId, tokenInfo.ExternalTokenId, toRefund))" := rfl

/-- Non-vacuity: a concrete distribution satisfying all hypotheses. -/
example : goodFees [5, 1, 9] (Int.tdiv 6 3) = 14 ∧ sumInts [5, 1, 9] - 6 ≤ 14 ∧
    refundShare 9 5 14 = 3 ∧ reimbursement 6 15 = 6 := by decide

end Mhub2.C19
