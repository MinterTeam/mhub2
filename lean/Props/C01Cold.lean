/-
  C01 — the governance cold-storage transfer (`Keeper.ColdStorageTransfer`).

  The proposal moves collateral from the bridge contract / multisig to the cold-storage address of
  the same custody.  On the hub it mints `amt` vouchers and burns them again inside the same call,
  leaving ONE pool entry addressed to the hard-wired cold-storage address.  The theorems say that
  nothing else happens: circulating supply and every balance are as before, the only new liability
  is that entry, its external amount is the floor conversion of `amt` (never more than `amt`), it
  pays no fee and no commission, and its recipient is the cold-storage address of that chain — so
  the vouchers minted without a deposit can never reach an account, only custody.
  (If the entry is cancelled or expires, the refund goes to the module's temporary account with
  refund chain "hub": `refundChain`/`sender` below.)
-/
import Lemmas.Value
import Mhub2.Cold
import Mhub2.Generated.Facts
namespace Mhub2.C01Cold
open Mhub2

theorem cold_unknown_chain_panics (h : Hub) {chain : String} (hc : coldStorageAddr chain = none)
    (denom : String) (amt : Int) (tx : String) :
    h.coldStorageCoin chain denom amt tx = panicM "unknown network" := by
  unfold Hub.coldStorageCoin; rw [hc]

theorem coldStorageCoin_ok {h h' : Hub} {chain dn tx : String} {amt : Int} {id : Nat}
    (hok : h.coldStorageCoin chain dn amt tx = .ok (h', id)) :
    ∃ addr, coldStorageAddr chain = some addr ∧ 0 < amt ∧
      (h.bankWrite tempAddr dn amt).createSte chain tempAddr addr dn amt 0 0 tx "hub" tempAddr = .ok (h', id) := by
  unfold Hub.coldStorageCoin panicM at hok
  cases ha : coldStorageAddr chain with
  | none => rw [ha] at hok; cases hok
  | some addr =>
    rw [ha] at hok
    obtain ⟨h1, hm, hok⟩ := bind_ok hok
    obtain ⟨hpos, rfl⟩ := mintTo_eq hm
    exact ⟨addr, rfl, hpos, hok⟩

theorem toExt_zero (d : Nat) : toExt d 0 = 0 := by
  unfold toExt convertDecimals; split <;> simp

theorem cold_value {h h' : Hub} {chain dn tx : String} {amt : Int} {id : Nat}
    (hok : h.coldStorageCoin chain dn amt tx = .ok (h', id))
    (htk : h.TokensOK) (hnd : h.tokens.Nodup) (hi : h.LedgerInv) (hb : h'.Bounded) (denom : String) :
    h'.supplyOf denom = h.supplyOf denom ∧
    ∃ tok, h.tokenByDenom chain dn = some tok ∧
      h'.value denom = h.value denom + (if dn = denom then toExt tok.dec amt * unitOf tok.dec else 0) ∧
      h'.value denom ≤ h.value denom + hubCredit dn denom amt := by
  obtain ⟨addr, _, _, hc⟩ := coldStorageCoin_ok hok
  obtain ⟨hcs, htok, _⟩ := bankWrite_fields h tempAddr dn amt
  obtain ⟨tok, htd, hv⟩ := createSte_value_eq hc (tokensOK_of_eq htok htk) (by rw [htok]; exact hnd)
    (fun c => by rw [chain_of_cs hcs]; exact hi c) hb denom
  have htd' : h.tokenByDenom chain dn = some tok := by
    unfold Hub.tokenByDenom at htd ⊢; rw [htok] at htd; exact htd
  have hle := toExt_value_le (htk.dec_le tok (tokenByDenom_some htd').1) amt
  rw [bankWrite_value, toExt_zero, Int.add_zero, Int.add_zero, Int.add_zero, Int.add_zero] at hv
  refine ⟨?_, tok, htd', ?_, ?_⟩
  · obtain ⟨_, _, _, _, _, rfl⟩ := createSte_eq hc
    show ((h.bankWrite tempAddr dn amt).bankWrite tempAddr dn (-(amt + 0 + 0))).supplyOf denom = _
    rw [bankWrite_supply, bankWrite_supply]
    split <;> omega
  · rw [hv]; omega
  · rw [hv]; unfold hubCredit at *; split <;> omega

theorem cold_entry {h h' : Hub} {chain dn tx : String} {amt : Int} {id : Nat}
    (hok : h.coldStorageCoin chain dn amt tx = .ok (h', id)) :
    ∃ (addr : String) (tok : TokenInfo) (ste : Ste),
      coldStorageAddr chain = some addr ∧ h.tokenByDenom chain dn = some tok ∧
      ste.recipient = addr ∧ ste.sender = tempAddr ∧ ste.fee = 0 ∧ ste.comm = 0 ∧
      ste.refundChain = "hub" ∧ ste.refundAddr = tempAddr ∧ ste.id = id ∧
      ste.amount = h.toExternal chain tok.extId amt ∧ 0 < amt ∧
      (h'.chain chain).pool = insertByKey poolKey ste (h.chain chain).pool ∧
      (h'.chain chain).batches = (h.chain chain).batches := by
  obtain ⟨addr, haddr, hpos, hc⟩ := coldStorageCoin_ok hok
  obtain ⟨tok, htd, _, _, hid, rfl⟩ := createSte_eq hc
  obtain ⟨hcs1, htok1, _⟩ := bankWrite_fields h tempAddr dn amt
  obtain ⟨hcs2, htok2, _⟩ := bankWrite_fields (h.bankWrite tempAddr dn amt) tempAddr dn (-(amt + 0 + 0))
  rw [chain_of_cs hcs1] at hid
  generalize (h.bankWrite tempAddr dn amt).bankWrite tempAddr dn (-(amt + 0 + 0)) = v at hcs2 htok2 ⊢
  have hch : v.chain chain = h.chain chain := by rw [chain_of_cs hcs2, chain_of_cs hcs1]
  have hz : ∀ e, v.toExternal chain e 0 = 0 := by
    intro e; unfold Hub.toExternal; split
    · rfl
    · exact toExt_zero _
  obtain ⟨e1, e2, _, _⟩ := addSte_chain v chain (v.newSte chain tempAddr addr tok amt 0 0 tx "hub" tempAddr)
  refine ⟨addr, tok, v.newSte chain tempAddr addr tok amt 0 0 tx "hub" tempAddr, haddr, ?_, rfl, rfl, hz _, hz _,
    rfl, rfl, ?_, toExternal_of_tokens (htok2.trans htok1) _ _ _, hpos, by rw [e1, hch], by rw [e2, hch]⟩
  · unfold Hub.tokenByDenom at htd ⊢; rw [htok1] at htd; exact htd
  · rw [hid, ← hch]; rfl

/-! ### Bridge to the source (regenerated on every run) -/

theorem fact_cold_mint : Generated.cold_mint =
    "k.bankKeeper.MintCoins(ctx, types.ModuleName, vouchers) | k.bankKeeper.SendCoinsFromModuleToAccount(ctx, types.ModuleName, types.TempAddress, vouchers) | vouchers := sdk.Coins{coin}" := rfl
theorem fact_cold_create_args : Generated.cold_create_args =
    "ctx | chainId | types.TempAddress | coldStorageAddr | coin | sdk.NewCoin(coin.Denom, sdk.NewInt(0)) | sdk.NewCoin(coin.Denom, sdk.NewInt(0)) | \"hub\" | types.TempAddress.String()" := rfl
theorem fact_cold_calls : Generated.cold_calls =
    "k.bankKeeper.MintCoins | k.bankKeeper.SendCoinsFromModuleToAccount | k.createSendToExternal" := rfl
theorem fact_cold_addrs : Generated.cold_addrs =
    "\"minter\" => return \"0x7072558b2b91e62dbed78e9a3453e5c9e01fec5e\" | \"ethereum\" => return \"0x58BD8047F441B9D511aEE9c581aEb1caB4FE0b6d\" | \"bsc\" => return \"0xbCc2Fa395c6198096855c932f4087cF1377d28EE\"" := rfl

/-! ### Non-vacuity: a 6-decimal token on "ethereum", 1.5 units + dust sent to cold storage -/

def exOps : List Op := [.chains ["ethereum", "minter"], .token ⟨1, "hub", "ethereum", "T", 6, 0⟩,
  .fund "a" "hub" 5000000000000000000]

example : (match (runOps exOps).coldStorageCoin "ethereum" "hub" 1500000000000000007 "p" with
    | .ok (h', id) => id == 1 && h'.supplyOf "hub" == 5000000000000000000 && h'.balance tempAddr "hub" == 0 &&
        ((h'.chain "ethereum").pool.map fun s => (s.recipient, s.amount, s.fee, s.comm, s.refundChain)) ==
          [("0x58BD8047F441B9D511aEE9c581aEb1caB4FE0b6d", 1500000, 0, 0, "hub")] &&
        h'.value "hub" == (runOps exOps).value "hub" + 1500000 * unitOf 6
    | .error _ => false) = true := by decide +kernel
example : (match (runOps exOps).coldStorageCoin "hub" "hub" 5 "p" with
    | .error (.panic m) => m == "unknown network" | _ => false) = true := by decide +kernel
example : (match (runOps exOps).coldStorageCoin "ethereum" "hub" 0 "p" with
    | .error (.fail _) => true | _ => false) = true := by decide +kernel

end Mhub2.C01Cold
