/-
  C14 — Votes aggregate only on identical events.

  Claim identifiers are `Event.hash = sha256 ∘ Event.preimage`.  All statements here are about
  the PRE-IMAGE; `sha256` is never unfolded (collision resistance is an assumption outside Lean).

  The full statement ("events that differ in any effect-relevant field get different
  identifiers") is FALSE of the implementation and of the model: several fields are not part of
  the pre-image at all, the sender goes through a lossy hex decoder, and the pre-image is an
  un-delimited concatenation.  Section 1 gives one witness per defect (all reproduced with the
  real Go `Hash()` by the harness); sections 2–4 prove the strongest statements that are true.
-/
import Mhub2.Votes
import Mhub2.Generated.Facts
import Lemmas.Encoding
namespace Mhub2.C14
open Mhub2 Mhub2.Enc


/-! ### 0. Equal pre-images give equal identifiers -/

theorem hash_eq_of_preimage_eq {e1 e2 : Event} (h : e1.preimage = e2.preimage) : e1.hash = e2.hash := by
  unfold Event.hash; rw [h]

/-! ### 1. Negation witnesses -/

/-- `TransferToChainEvent.Hash()` reads neither `Fee` nor `TxHash`. -/
theorem transfer_preimage_ignores_fee_txHash (n : Nat) (c : String) (a f1 f2 : Int) (s rc r : String)
    (h : Nat) (t1 t2 : String) :
    (Event.transfer n c a f1 s rc r h t1).preimage = (Event.transfer n c a f2 s rc r h t2).preimage := rfl

/-- `SendToHubEvent.Hash()` does not read `TxHash`, and reads `Sender` only through
    `common.Hex2Bytes`. -/
theorem sendToHub_preimage_sender_txHash {n : Nat} {c : String} {a : Int} {s1 s2 r : String} {h : Nat}
    {t1 t2 : String} (hs : hex2bytesLoose s1.toList = hex2bytesLoose s2.toList) :
    (Event.sendToHub n c a s1 r h t1).preimage = (Event.sendToHub n c a s2 r h t2).preimage := by
  simp only [Event.preimage, hs]

theorem transfer_preimage_sender {n : Nat} {c : String} {a f1 f2 : Int} {s1 s2 rc r : String} {h : Nat}
    {t1 t2 : String} (hs : hex2bytesLoose s1.toList = hex2bytesLoose s2.toList) :
    (Event.transfer n c a f1 s1 rc r h t1).preimage = (Event.transfer n c a f2 s2 rc r h t2).preimage := by
  simp only [Event.preimage, hs]

/-- `BatchExecutedEvent.Hash()` reads none of `TxHash`, `FeePaid`, `FeePayer`. -/
theorem batchExecuted_preimage_ignores (c : String) (n bn h : Nat) (t1 t2 : String) (p1 p2 : Int)
    (q1 q2 : String) :
    (Event.batchExecuted c n bn h t1 p1 q1).preimage = (Event.batchExecuted c n bn h t2 p2 q2).preimage := rfl

/-- `SignerSetTxExecutedEvent.Hash()` does not read `TxHash`. -/
theorem signerSet_preimage_ignores_txHash (n sn h : Nat) (m : List Signer) (t1 t2 : String) :
    (Event.signerSet n sn h m t1).preimage = (Event.signerSet n sn h m t2).preimage := rfl

/-- `common.Hex2Bytes` of a "0x…" string is empty: decoding stops at the `x`. -/
theorem hex2bytesLoose_0x (s : List Char) : hex2bytesLoose ('0' :: 'x' :: s) = [] := rfl

-- on the characters of the literal (`Enc.hex2bytesLoose_toList_0x`): `decide` would first decode its UTF-8
theorem sender_0x_A : hex2bytesLoose ("0x1111111111111111111111111111111111111111").toList = [] :=
  hex2bytesLoose_toList_0x _
theorem sender_0x_B : hex2bytesLoose ("0x2222222222222222222222222222222222222222").toList = [] :=
  hex2bytesLoose_toList_0x _

/-- Same transfer to another chain, different bridge fee: same identifier pre-image. -/
theorem collision_transfer_fee :
    (Event.transfer 1 "7" 1000 1 "0x1111111111111111111111111111111111111111" "ethereum" "0x3333333333333333333333333333333333333333" 50 "aa").preimage
      = (Event.transfer 1 "7" 1000 999 "0x1111111111111111111111111111111111111111" "ethereum" "0x3333333333333333333333333333333333333333" 50 "aa").preimage := rfl

theorem collision_transfer_txHash :
    (Event.transfer 1 "7" 1000 1 "0x1111111111111111111111111111111111111111" "ethereum" "0x3333333333333333333333333333333333333333" 50 "aa").preimage
      = (Event.transfer 1 "7" 1000 1 "0x1111111111111111111111111111111111111111" "ethereum" "0x3333333333333333333333333333333333333333" 50 "bb").preimage := rfl

/-- Two different valid `0x…` senders (both pass `common.IsHexAddress`) hash alike. -/
theorem collision_transfer_sender :
    (Event.transfer 1 "7" 1000 1 "0x1111111111111111111111111111111111111111" "ethereum" "0x3333333333333333333333333333333333333333" 50 "aa").preimage
      = (Event.transfer 1 "7" 1000 1 "0x2222222222222222222222222222222222222222" "ethereum" "0x3333333333333333333333333333333333333333" 50 "aa").preimage :=
  transfer_preimage_sender (sender_0x_A.trans sender_0x_B.symm)

theorem collision_sendToHub_txHash :
    (Event.sendToHub 1 "7" 1000 "0x1111111111111111111111111111111111111111" "aabb" 50 "aa").preimage
      = (Event.sendToHub 1 "7" 1000 "0x1111111111111111111111111111111111111111" "aabb" 50 "bb").preimage := rfl

theorem collision_sendToHub_sender :
    (Event.sendToHub 1 "7" 1000 "0x1111111111111111111111111111111111111111" "aabb" 50 "aa").preimage
      = (Event.sendToHub 1 "7" 1000 "0x2222222222222222222222222222222222222222" "aabb" 50 "aa").preimage :=
  sendToHub_preimage_sender_txHash (sender_0x_A.trans sender_0x_B.symm)

theorem collision_batchExecuted_txHash :
    (Event.batchExecuted "7" 1 1 50 "aa" 10 "p").preimage
      = (Event.batchExecuted "7" 1 1 50 "bb" 10 "p").preimage := rfl

theorem collision_batchExecuted_feePaid :
    (Event.batchExecuted "7" 1 1 50 "aa" 10 "p").preimage
      = (Event.batchExecuted "7" 1 1 50 "aa" 11 "p").preimage := rfl

theorem collision_batchExecuted_feePayer :
    (Event.batchExecuted "7" 1 1 50 "aa" 10 "p").preimage
      = (Event.batchExecuted "7" 1 1 50 "aa" 10 "q").preimage := rfl

theorem collision_signerSet_txHash :
    (Event.signerSet 1 1 50 [⟨5, "0x1111111111111111111111111111111111111111"⟩] "aa").preimage
      = (Event.signerSet 1 1 50 [⟨5, "0x1111111111111111111111111111111111111111"⟩] "bb").preimage := rfl

/-- The coin id and the amount are concatenated without a delimiter or length prefix … -/
theorem sendToHub_preimage_boundary {n : Nat} {c1 c2 : String} {a1 a2 : Int} {s r : String} {h : Nat}
    {t : String} (hb : strBytes c1 ++ minBytes a1.natAbs = strBytes c2 ++ minBytes a2.natAbs) :
    (Event.sendToHub n c1 a1 s r h t).preimage = (Event.sendToHub n c2 a2 s r h t).preimage := by
  simp only [Event.preimage, List.append_assoc]
  rw [← List.append_assoc (strBytes c1), hb, List.append_assoc]

theorem boundary_bytes : strBytes "1" ++ minBytes (12805 : Int).natAbs = strBytes "12" ++ minBytes (5 : Int).natAbs := by
  decide +kernel

/-- … so coin "1" with amount 12805 = 0x3205 and coin "12" (= bytes 0x31 0x32) with amount 5 are
    given the same identifier. -/
theorem collision_boundary_shift :
    (Event.sendToHub 1 "1" 12805 "0x1111111111111111111111111111111111111111" "aabb" 50 "aa").preimage
      = (Event.sendToHub 1 "12" 5 "0x1111111111111111111111111111111111111111" "aabb" 50 "aa").preimage :=
  sendToHub_preimage_boundary boundary_bytes

theorem collision_boundary_shift_transfer :
    (Event.transfer 1 "1" 12805 0 "0x1111111111111111111111111111111111111111" "ethereum" "0x3333333333333333333333333333333333333333" 50 "aa").preimage
      = (Event.transfer 1 "12" 5 0 "0x1111111111111111111111111111111111111111" "ethereum" "0x3333333333333333333333333333333333333333" 50 "aa").preimage := by
  simp only [Event.preimage, List.append_assoc]
  rw [← List.append_assoc (strBytes "1"), boundary_bytes, List.append_assoc]

/-- The full statement of C14 — any two distinct events get distinct identifiers — is false, and no
    assumption on SHA-256 can repair it: the two events below are fed to it as the same bytes. -/
theorem full_statement_false : ¬ ∀ e1 e2 : Event, e1 ≠ e2 → e1.hash ≠ e2.hash := by
  intro h
  refine h _ _ ?_ (hash_eq_of_preimage_eq collision_transfer_fee)
  simp

/-- Summary: for each field below there are two events differing ONLY in that field (resp. in
    coin id and amount for the boundary shift) with equal identifiers. -/
theorem uncovered_fields :
    -- TransferToChain: fee, tx hash, sender
    (∃ n c a f1 f2 s rc r h t, f1 ≠ f2 ∧
      (Event.transfer n c a f1 s rc r h t).hash = (Event.transfer n c a f2 s rc r h t).hash) ∧
    (∃ n c a f s rc r h t1 t2, t1 ≠ t2 ∧
      (Event.transfer n c a f s rc r h t1).hash = (Event.transfer n c a f s rc r h t2).hash) ∧
    (∃ n c a f s1 s2 rc r h t, s1 ≠ s2 ∧
      (Event.transfer n c a f s1 rc r h t).hash = (Event.transfer n c a f s2 rc r h t).hash) ∧
    -- SendToHub: tx hash, sender
    (∃ n c a s r h t1 t2, t1 ≠ t2 ∧
      (Event.sendToHub n c a s r h t1).hash = (Event.sendToHub n c a s r h t2).hash) ∧
    (∃ n c a s1 s2 r h t, s1 ≠ s2 ∧
      (Event.sendToHub n c a s1 r h t).hash = (Event.sendToHub n c a s2 r h t).hash) ∧
    -- BatchExecuted: tx hash, fee paid, fee payer
    (∃ c n bn h t1 t2 p q, t1 ≠ t2 ∧
      (Event.batchExecuted c n bn h t1 p q).hash = (Event.batchExecuted c n bn h t2 p q).hash) ∧
    (∃ c n bn h t p1 p2 q, p1 ≠ p2 ∧
      (Event.batchExecuted c n bn h t p1 q).hash = (Event.batchExecuted c n bn h t p2 q).hash) ∧
    (∃ c n bn h t p q1 q2, q1 ≠ q2 ∧
      (Event.batchExecuted c n bn h t p q1).hash = (Event.batchExecuted c n bn h t p q2).hash) ∧
    -- SignerSet: tx hash
    (∃ n sn h m t1 t2, t1 ≠ t2 ∧
      (Event.signerSet n sn h m t1).hash = (Event.signerSet n sn h m t2).hash) ∧
    -- boundary shift between coin id and amount
    (∃ n c1 c2 a1 a2 s r h t, c1 ≠ c2 ∧ a1 ≠ a2 ∧ 0 ≤ a1 ∧ 0 ≤ a2 ∧
      (Event.sendToHub n c1 a1 s r h t).hash = (Event.sendToHub n c2 a2 s r h t).hash) := by
  refine ⟨⟨_, _, _, _, _, _, _, _, _, _, ?_, hash_eq_of_preimage_eq collision_transfer_fee⟩,
    ⟨_, _, _, _, _, _, _, _, _, _, ?_, hash_eq_of_preimage_eq collision_transfer_txHash⟩,
    ⟨_, _, _, _, _, _, _, _, _, _, ?_, hash_eq_of_preimage_eq collision_transfer_sender⟩,
    ⟨_, _, _, _, _, _, _, _, ?_, hash_eq_of_preimage_eq collision_sendToHub_txHash⟩,
    ⟨_, _, _, _, _, _, _, _, ?_, hash_eq_of_preimage_eq collision_sendToHub_sender⟩,
    ⟨_, _, _, _, _, _, _, _, ?_, hash_eq_of_preimage_eq collision_batchExecuted_txHash⟩,
    ⟨_, _, _, _, _, _, _, _, ?_, hash_eq_of_preimage_eq collision_batchExecuted_feePaid⟩,
    ⟨_, _, _, _, _, _, _, _, ?_, hash_eq_of_preimage_eq collision_batchExecuted_feePayer⟩,
    ⟨_, _, _, _, _, _, ?_, hash_eq_of_preimage_eq collision_signerSet_txHash⟩,
    ⟨_, _, _, _, _, _, _, _, _, ?_, ?_, ?_, ?_, hash_eq_of_preimage_eq collision_boundary_shift⟩⟩ <;> decide

/-! ### 2. The component encoders are injective

  Restated from Lemmas/Encoding (`Enc.beBytes_mod`, `be8_inj`, `Enc.minBytes_inj`, …, `strBytes_inj`), which
  is what the proofs of section 3 use. -/

/-- `sdk.Uint64ToBigEndian` keeps the value modulo `2^64`. -/
theorem be8_eq_mod {a b : Nat} (h : be8 a = be8 b) : a % 2 ^ 64 = b % 2 ^ 64 := beBytes_mod (w := 8) h
theorem be8_wraps : be8 (2 ^ 64) = be8 0 ∧ be8 (2 ^ 64 + 5) = be8 5 :=
  ⟨beBytes_of_mod (by decide), beBytes_of_mod (by decide)⟩
theorem be8_injective {a b : Nat} (ha : a < 2 ^ 64) (hb : b < 2 ^ 64) (h : be8 a = be8 b) : a = b :=
  be8_inj ha hb h
theorem be8_len (n : Nat) : (be8 n).length = 8 := be8_length n
/-- `big.Int.Bytes()` is injective on naturals. -/
theorem minBytes_injective {a b : Nat} (h : minBytes a = minBytes b) : a = b := minBytes_inj h
theorem minBytes_length_zero_iff {n : Nat} : (minBytes n).length = 0 ↔ n = 0 := minBytes_length_eq_zero
theorem minBytes_length_bounds {n : Nat} (h : n ≠ 0) :
    256 ^ ((minBytes n).length - 1) ≤ n ∧ n < 256 ^ (minBytes n).length :=
  ⟨pow_minBytes_length_le h, lt_pow_minBytes_length n⟩
/-- `[]byte(s)` is injective. -/
theorem strBytes_injective {a b : String} (h : strBytes a = strBytes b) : a = b := strBytes_inj h


/-! ### 3. What the pre-image does determine

  The pre-image is an un-delimited concatenation, so a component boundary can only be recovered
  when the widths of the variable-width components are known.  Under that "length profile"
  hypothesis (one variable-width component is always determined by the total length, so it needs
  no hypothesis) equal pre-images force equality of every COVERED component.  This is the strongest
  statement true of such an encoding; `collision_boundary_shift` shows the hypothesis is needed. -/

/-- SendToHub: nonce, coin id, amount, sender BYTES (`common.Hex2Bytes`, not the sender string: see
    `collision_sendToHub_sender`), receiver bytes, external height.  The receiver width needs no
    hypothesis. -/
theorem preimage_injective_partial_sendToHub
    {n1 n2 : Nat} {c1 c2 : String} {a1 a2 : Int} {s1 s2 r1 r2 : String} {h1 h2 : Nat} {t1 t2 : String}
    (hn1 : n1 < 2 ^ 64) (hn2 : n2 < 2 ^ 64) (hh1 : h1 < 2 ^ 64) (hh2 : h2 < 2 ^ 64)
    (ha1 : 0 ≤ a1) (ha2 : 0 ≤ a2)
    (lc : (strBytes c1).length = (strBytes c2).length)
    (la : (minBytes a1.natAbs).length = (minBytes a2.natAbs).length)
    (ls : (hex2bytesLoose s1.toList).length = (hex2bytesLoose s2.toList).length)
    (h : (Event.sendToHub n1 c1 a1 s1 r1 h1 t1).preimage = (Event.sendToHub n2 c2 a2 s2 r2 h2 t2).preimage) :
    n1 = n2 ∧ c1 = c2 ∧ a1 = a2 ∧ hex2bytesLoose s1.toList = hex2bytesLoose s2.toList ∧
      hexToBytes r1 = hexToBytes r2 ∧ h1 = h2 := by
  simp only [Event.preimage, List.append_assoc] at h
  obtain ⟨en, h⟩ := be8_append_inj hn1 hn2 h
  obtain ⟨ec, h⟩ := List.append_inj h lc
  obtain ⟨ea, h⟩ := List.append_inj h la
  obtain ⟨es, h⟩ := List.append_inj h ls
  obtain ⟨er, eh⟩ := append_be8_inj hh1 hh2 h
  have := minBytes_inj ea
  exact ⟨en, strBytes_inj ec, by omega, es, er, eh⟩

/-- TransferToChain: nonce, coin id, amount, sender bytes, receiver string, destination chain,
    external height.  (`fee` and `txHash` are not covered: `collision_transfer_fee`,
    `collision_transfer_txHash`.)  The destination-chain width needs no hypothesis. -/
theorem preimage_injective_partial_transfer
    {n1 n2 : Nat} {c1 c2 : String} {a1 a2 f1 f2 : Int} {s1 s2 rc1 rc2 r1 r2 : String} {h1 h2 : Nat}
    {t1 t2 : String}
    (hn1 : n1 < 2 ^ 64) (hn2 : n2 < 2 ^ 64) (hh1 : h1 < 2 ^ 64) (hh2 : h2 < 2 ^ 64)
    (ha1 : 0 ≤ a1) (ha2 : 0 ≤ a2)
    (lc : (strBytes c1).length = (strBytes c2).length)
    (la : (minBytes a1.natAbs).length = (minBytes a2.natAbs).length)
    (ls : (hex2bytesLoose s1.toList).length = (hex2bytesLoose s2.toList).length)
    (lr : (strBytes r1).length = (strBytes r2).length)
    (h : (Event.transfer n1 c1 a1 f1 s1 rc1 r1 h1 t1).preimage
        = (Event.transfer n2 c2 a2 f2 s2 rc2 r2 h2 t2).preimage) :
    n1 = n2 ∧ c1 = c2 ∧ a1 = a2 ∧ hex2bytesLoose s1.toList = hex2bytesLoose s2.toList ∧
      r1 = r2 ∧ rc1 = rc2 ∧ h1 = h2 := by
  simp only [Event.preimage, List.append_assoc] at h
  obtain ⟨en, h⟩ := be8_append_inj hn1 hn2 h
  obtain ⟨ec, h⟩ := List.append_inj h lc
  obtain ⟨ea, h⟩ := List.append_inj h la
  obtain ⟨es, h⟩ := List.append_inj h ls
  obtain ⟨er, h⟩ := List.append_inj h lr
  obtain ⟨erc, eh⟩ := append_be8_inj hh1 hh2 h
  have := minBytes_inj ea
  exact ⟨en, strBytes_inj ec, by omega, es, strBytes_inj er, strBytes_inj erc, eh⟩

/-- BatchExecuted: the only variable-width component is the coin id, so no length hypothesis is
    needed: coin id, event nonce, batch nonce and height are determined.  (`txHash`, `feePaid`,
    `feePayer` are not covered.) -/
theorem preimage_injective_partial_batchExecuted
    {c1 c2 : String} {n1 n2 b1 b2 h1 h2 : Nat} {t1 t2 : String} {p1 p2 : Int} {q1 q2 : String}
    (hn1 : n1 < 2 ^ 64) (hn2 : n2 < 2 ^ 64) (hb1 : b1 < 2 ^ 64) (hb2 : b2 < 2 ^ 64)
    (hh1 : h1 < 2 ^ 64) (hh2 : h2 < 2 ^ 64)
    (h : (Event.batchExecuted c1 n1 b1 h1 t1 p1 q1).preimage
        = (Event.batchExecuted c2 n2 b2 h2 t2 p2 q2).preimage) :
    c1 = c2 ∧ n1 = n2 ∧ b1 = b2 ∧ h1 = h2 := by
  simp only [Event.preimage] at h
  obtain ⟨h, eh⟩ := append_be8_inj hh1 hh2 h
  obtain ⟨h, eb⟩ := append_be8_inj hb1 hb2 h
  obtain ⟨ec, en⟩ := append_be8_inj hn1 hn2 h
  exact ⟨strBytes_inj ec, en, eb, eh⟩

/-- ContractCallExecuted: likewise fully determined (the scope is the only variable-width part). -/
theorem preimage_injective_partial_contractCall
    {n1 n2 : Nat} {sc1 sc2 : Bytes} {i1 i2 h1 h2 : Nat}
    (hn1 : n1 < 2 ^ 64) (hn2 : n2 < 2 ^ 64) (hi1 : i1 < 2 ^ 64) (hi2 : i2 < 2 ^ 64)
    (hh1 : h1 < 2 ^ 64) (hh2 : h2 < 2 ^ 64)
    (h : (Event.contractCall n1 sc1 i1 h1).preimage = (Event.contractCall n2 sc2 i2 h2).preimage) :
    Event.contractCall n1 sc1 i1 h1 = Event.contractCall n2 sc2 i2 h2 := by
  simp only [Event.preimage] at h
  obtain ⟨h, eh⟩ := append_be8_inj hh1 hh2 h
  obtain ⟨h, ei⟩ := append_be8_inj hi1 hi2 h
  obtain ⟨en, es⟩ := be8_append_inj hn1 hn2 h
  rw [en, es, ei, eh]

/-- SignerSet: the three numbers and the members DIGEST are determined; the members themselves
    are hashed (`ExternalSigners.Hash()`), so nothing more can be said without an assumption on
    SHA-256.  (`txHash` is not covered.) -/
theorem preimage_injective_partial_signerSet
    {n1 n2 sn1 sn2 h1 h2 : Nat} {m1 m2 : List Signer} {t1 t2 : String}
    (hn1 : n1 < 2 ^ 64) (hn2 : n2 < 2 ^ 64) (hs1 : sn1 < 2 ^ 64) (hs2 : sn2 < 2 ^ 64)
    (hh1 : h1 < 2 ^ 64) (hh2 : h2 < 2 ^ 64)
    (h : (Event.signerSet n1 sn1 h1 m1 t1).preimage = (Event.signerSet n2 sn2 h2 m2 t2).preimage) :
    n1 = n2 ∧ sn1 = sn2 ∧ h1 = h2 ∧ sha256 (signersHashPre m1) = sha256 (signersHashPre m2) := by
  simp only [Event.preimage, List.append_assoc] at h
  obtain ⟨en, h⟩ := be8_append_inj hn1 hn2 h
  obtain ⟨es, h⟩ := be8_append_inj hs1 hs2 h
  obtain ⟨eh, em⟩ := be8_append_inj hh1 hh2 h
  exact ⟨en, es, eh, em⟩

/-- Events of different TYPES are not separated by the pre-image either: there is no type tag.
    A ContractCallExecuted event whose invalidation scope spells out the middle of a SendToHub
    pre-image, and whose invalidation nonce is the last 8 receiver bytes, gets the SendToHub
    identifier.  (Both `Hash()` component lists of section 5 start with the event nonce
    and end with the external height; what lies between is raw bytes in either.) -/
theorem collision_across_types {n : Nat} {c : String} {a : Int} {s r : String} {inv h : Nat} {t : String}
    {pre : Bytes} (hr : hexToBytes r = pre ++ be8 inv) :
    (Event.contractCall n (strBytes c ++ minBytes a.natAbs ++ hex2bytesLoose s.toList ++ pre) inv h).preimage
      = (Event.sendToHub n c a s r h t).preimage := by
  simp only [Event.preimage, hr, List.append_assoc]

theorem collision_across_types_witness :
    (Event.contractCall 1 (strBytes "7" ++ minBytes (1000 : Int).natAbs ++ hex2bytesLoose ("").toList
        ++ List.replicate 12 0) 9 50).preimage
      = (Event.sendToHub 1 "7" 1000 "" "0000000000000000000000000000000000000009" 50 "aa").preimage :=
  collision_across_types (by rw [hexToBytes_ofList]; decide +kernel)

/-! ### 4. Members are a set for the identifier -/

/-- `ExternalSigners.Hash()` sorts before hashing, and the sort order (power descending, then
    address) is a strict total order on signers, so the bytes hashed depend only on the multiset
    of members — no distinctness hypothesis is needed. -/
theorem signersHashPre_perm_invariant {l1 l2 : List Signer} (h : l1.Perm l2) :
    signersHashPre l1 = signersHashPre l2 := by
  unfold signersHashPre; rw [sortSigners_eq_of_perm h]

theorem sortSigners_is_perm (l : List Signer) : (sortSigners l).Perm l := sortSigners_perm l
theorem sortSigners_is_sorted (l : List Signer) :
    (sortSigners l).Pairwise fun a b => signerLt b a = false := sortSigners_sorted l

theorem signerSet_hash_perm_invariant (n sn h : Nat) {m1 m2 : List Signer} (t : String) (hp : m1.Perm m2) :
    (Event.signerSet n sn h m1 t).hash = (Event.signerSet n sn h m2 t).hash := by
  simp only [Event.hash, Event.preimage, signersHashPre_perm_invariant hp]

/-- Conversely the bytes hashed determine the members up to what `ExternalSigners.Hash()` reads
    of them: the sorted list of (20 address bytes, power) records.  Combined with
    `preimage_injective_partial_signerSet` this is all that can be said of `members` short of an
    assumption on SHA-256. -/
theorem signersHashPre_injective_partial {l1 l2 : List Signer}
    (h1 : ∀ s ∈ l1, (ethAddrBytes s.addr).length = 20 ∧ s.power < 2 ^ 64)
    (h2 : ∀ s ∈ l2, (ethAddrBytes s.addr).length = 20 ∧ s.power < 2 ^ 64)
    (h : signersHashPre l1 = signersHashPre l2) :
    (sortSigners l1).map (fun s => (ethAddrBytes s.addr, s.power))
      = (sortSigners l2).map (fun s => (ethAddrBytes s.addr, s.power)) :=
  signersHashPre_inj h1 h2 h

/-- The address STRING is not determined: `common.HexToAddress` ignores letter case, so two
    spellings of one address give the same identifier.  (Both spellings denote the same Ethereum
    address, so no two different signer sets are confused by it.) -/
theorem collision_signerSet_member_spelling :
    (Event.signerSet 1 1 50 [⟨5, "0xAAaaAAaaAAaaAAaaAAaaAAaaAAaaAAaaAAaaAAaa"⟩] "aa").preimage
      = (Event.signerSet 1 1 50 [⟨5, "0xaaaaaaaaaaaaaaaaaaaaaaaaaaaaaaaaaaaaaaaa"⟩] "aa").preimage := by
  have e : ethAddrBytes "0xAAaaAAaaAAaaAAaaAAaaAAaaAAaaAAaaAAaaAAaa"
      = ethAddrBytes "0xaaaaaaaaaaaaaaaaaaaaaaaaaaaaaaaaaaaaaaaa" := by
    rw [ethAddrBytes_ofList_0x, ethAddrBytes_ofList_0x]; decide +kernel
  simp only [Event.preimage, signersHashPre_singleton, e]

/-! ### 5. Bridge lemmas: the component lists of each Go `Hash()` / `Validate()` -/

theorem fact_hash_sth : Generated.hash_sth =
    "sdk.Uint64ToBigEndian(sthe.EventNonce) | []byte(sthe.ExternalCoinId) | sthe.Amount.BigInt().Bytes() | common.Hex2Bytes(sthe.Sender) | rcv.Bytes() | sdk.Uint64ToBigEndian(sthe.ExternalHeight)" := rfl
theorem fact_hash_ttc : Generated.hash_ttc =
    "sdk.Uint64ToBigEndian(ttce.EventNonce) | []byte(ttce.ExternalCoinId) | ttce.Amount.BigInt().Bytes() | common.Hex2Bytes(ttce.Sender) | []byte(ttce.ExternalReceiver) | []byte(ttce.ReceiverChainId) | sdk.Uint64ToBigEndian(ttce.ExternalHeight)" := rfl
theorem fact_hash_bex : Generated.hash_bex =
    "[]byte(bee.ExternalCoinId) | sdk.Uint64ToBigEndian(bee.EventNonce) | sdk.Uint64ToBigEndian(bee.BatchNonce) | sdk.Uint64ToBigEndian(bee.ExternalHeight)" := rfl
theorem fact_hash_cce : Generated.hash_cce =
    "sdk.Uint64ToBigEndian(ccee.EventNonce) | ccee.InvalidationScope | sdk.Uint64ToBigEndian(ccee.InvalidationNonce) | sdk.Uint64ToBigEndian(ccee.ExternalHeight)" := rfl
theorem fact_hash_sse : Generated.hash_sse =
    "sdk.Uint64ToBigEndian(sse.EventNonce) | sdk.Uint64ToBigEndian(sse.SignerSetTxNonce) | sdk.Uint64ToBigEndian(sse.ExternalHeight) | ExternalSigners(sse.Members).Hash()" := rfl
theorem fact_hash_signers : Generated.hash_signers =
    "out.Write(append(common.HexToAddress(s.ExternalAddress).Bytes(), sdk.Uint64ToBigEndian(s.Power)...)) ; sorts=true" := rfl
theorem fact_validate_sth : Generated.validate_sth =
    "stce.EventNonce == 0 | err != nil | stce.Amount.IsNegative() | !common.IsHexAddress(stce.Sender) | err != nil" := rfl
theorem fact_validate_ttc : Generated.validate_ttc =
    "ttce.EventNonce == 0 | err != nil | ttce.Amount.IsNegative() | !common.IsHexAddress(ttce.Sender) | !common.IsHexAddress(ttce.ExternalReceiver) | ttce.ExternalReceiver == \"0x0000000000000000000000000000000000000000\"" := rfl
theorem fact_validate_bex : Generated.validate_bex =
    "bee.EventNonce == 0 | err != nil" := rfl
theorem fact_validate_cce : Generated.validate_cce =
    "ccee.EventNonce == 0" := rfl
theorem fact_validate_sse : Generated.validate_sse =
    "sse.EventNonce == 0 | sse.Members == nil | err != nil" := rfl


/-! ### 6. Non-vacuity -/

/-- Every witness event of section 1 passes the `Validate()` conditions the model tracks
    (non-zero nonce, non-negative amount). -/
example : (Event.transfer 1 "7" 1000 1 "0x1111111111111111111111111111111111111111" "ethereum" "0x1111111111111111111111111111111111111111" 50 "aa").validBasic = true ∧
    (Event.transfer 1 "7" 1000 999 "0x1111111111111111111111111111111111111111" "ethereum" "0x1111111111111111111111111111111111111111" 50 "aa").validBasic = true ∧
    (Event.sendToHub 1 "1" 12805 "0x1111111111111111111111111111111111111111" "aabb" 50 "aa").validBasic = true ∧
    (Event.sendToHub 1 "12" 5 "0x1111111111111111111111111111111111111111" "aabb" 50 "aa").validBasic = true ∧
    (Event.batchExecuted "7" 1 1 50 "aa" 10 "p").validBasic = true ∧
    (Event.signerSet 1 1 50 [⟨5, "0x1111111111111111111111111111111111111111"⟩] "aa").validBasic = true := by decide

/-- A pre-image written out: nonce, coin "1", amount 0x3205, no sender bytes, receiver 0xaabb, height. -/
example : (Event.sendToHub 1 "1" 12805 "0x1111111111111111111111111111111111111111" "aabb" 50 "aa").preimage
    = [0, 0, 0, 0, 0, 0, 0, 1, 49, 50, 5, 170, 187, 0, 0, 0, 0, 0, 0, 0, 50] := by
  rw [Event.preimage, hex2bytesLoose_toList_0x]; decide +kernel

/-- The hypotheses of `preimage_injective_partial_sendToHub` are satisfiable and the theorem
    separates two deposits that differ in the amount only (same byte width). -/
example : (Event.sendToHub 1 "7" 1000 "0x1111111111111111111111111111111111111111" "aabb" 50 "aa").preimage
    ≠ (Event.sendToHub 1 "7" 1001 "0x1111111111111111111111111111111111111111" "aabb" 50 "aa").preimage := by
  intro h
  have := preimage_injective_partial_sendToHub (by decide) (by decide) (by decide) (by decide)
    (by decide) (by decide) rfl (by decide +kernel) rfl h
  exact absurd this.2.2.1 (by decide)

/-- … and `preimage_injective_partial_transfer` two transfers that differ in the destination chain. -/
example : (Event.transfer 1 "7" 1000 1 "0x1111111111111111111111111111111111111111" "ethereum" "0x1111111111111111111111111111111111111111" 50 "aa").preimage
    ≠ (Event.transfer 1 "7" 1000 1 "0x1111111111111111111111111111111111111111" "bsc" "0x1111111111111111111111111111111111111111" 50 "aa").preimage := by
  intro h
  have := preimage_injective_partial_transfer (by decide) (by decide) (by decide) (by decide)
    (by decide) (by decide) rfl rfl rfl rfl h
  exact absurd this.2.2.2.2.2.1 (by decide)

/-- … and `preimage_injective_partial_batchExecuted` two executions of different batches. -/
example : (Event.batchExecuted "7" 1 1 50 "aa" 10 "p").preimage
    ≠ (Event.batchExecuted "7" 1 2 50 "aa" 10 "p").preimage := by
  intro h
  have := preimage_injective_partial_batchExecuted (by decide) (by decide) (by decide) (by decide)
    (by decide) (by decide) h
  exact absurd this.2.2.1 (by decide)

example : (sortSigners [⟨1, "b"⟩, ⟨2, "a"⟩, ⟨1, "a"⟩] == [⟨2, "a"⟩, ⟨1, "a"⟩, ⟨1, "b"⟩]) = true ∧
    (sortSigners [⟨1, "a"⟩, ⟨1, "b"⟩, ⟨2, "a"⟩] == [⟨2, "a"⟩, ⟨1, "a"⟩, ⟨1, "b"⟩]) = true := by
  decide +kernel

example : signersHashPre [⟨1, "b"⟩, ⟨2, "a"⟩, ⟨1, "a"⟩] = signersHashPre [⟨1, "a"⟩, ⟨1, "b"⟩, ⟨2, "a"⟩] :=
  signersHashPre_perm_invariant
    (List.perm_append_comm (l₁ := [(⟨1, "b"⟩ : Signer), ⟨2, "a"⟩]) (l₂ := [⟨1, "a"⟩]))

end Mhub2.C14
