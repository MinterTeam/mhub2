/-
  C08 — external acceptance of what the hub's validators confirmed.

  "Whenever validators holding more than the contract's threshold of its current signer set have
   confirmed a hub signer-set update or batch (before its timeout, in nonce order), the external
   contract or Minter multisig accepts it, and it accepts nothing confirmed by less.  The events it
   then emits keep hub and external nonces in step."

  The contract is the state machine of Mhub2/Contract.lean (differentially tested against the
  compiled Hub2.sol).  Signatures are idealised as (signer, digest) pairs; `keccak256` is never
  unfolded.  Collision resistance appears only as an explicit hypothesis of the theorems that need
  it (`checkpoint_binds_set`, `valset_nonce_monotone`, `update_valset_in_nonce_order`).
-/
import Mhub2.Contract
import Mhub2.Generated.Facts
import Lemmas.Contract
namespace Mhub2.C08
open Mhub2

/-! ### 1. `checkValidatorSignatures` -/

theorem validPower_valid (v : Bytes) (vs : List Bytes) (p : Nat) (ps : List Nat) (ss : List SigSlot) (h : Bytes) :
    validPower (v :: vs) (p :: ps) (.sig v h :: ss) h = p + validPower vs ps ss h := by
  simp [SigSlot.validFor]

theorem validPower_invalid (v : Bytes) (vs : List Bytes) (p : Nat) (ps : List Nat) (s : SigSlot)
    (ss : List SigSlot) (h : Bytes) (hs : s ≠ .sig v h) :
    validPower (v :: vs) (p :: ps) (s :: ss) h = validPower vs ps ss h := by
  have : s.validFor v h = false := by
    cases hc : s.validFor v h with
    | false => rfl
    | true => exact absurd ((SigSlot.validFor_iff _ _ _).1 hc) hs
  simp [this]

/-- The contract accepts nothing confirmed by less: whatever `checkValidatorSignatures` accepts was
    signed, over that very digest, by current members holding more than the threshold. -/
theorem contract_rejects_less {vals : List Bytes} {powers : List Nat} {sigs : List SigSlot} {h : Bytes}
    {th : Nat} (hc : checkSigs vals powers sigs h th = true) : validPower vals powers sigs h > th := by
  obtain ⟨c, hg, hgt⟩ := (checkSigs_true_iff _ _ _ _ _).1 hc
  have := (go_some_bounds h th vals powers sigs 0 c hg).2
  omega

theorem contract_accepts_of_slotsOK {vals : List Bytes} {powers : List Nat} {sigs : List SigSlot} {h : Bytes}
    {th : Nat} (hok : SlotsOK vals sigs h) (hp : validPower vals powers sigs h > th) :
    checkSigs vals powers sigs h th = true :=
  (checkSigs_true_iff _ _ _ _ _).2 (go_accepts h th vals powers sigs 0 hok (by omega))

/-- Whenever current members holding more than the threshold confirmed `h` and every supplied
    signature is valid, the contract accepts. -/
theorem contract_accepts_confirmed {vals : List Bytes} {powers : List Nat} {sigs : List SigSlot} {h : Bytes}
    {th : Nat} (_hl1 : vals.length = powers.length) (hl2 : vals.length = sigs.length)
    (hok : ∀ (i : Nat) (hi : i < vals.length),
      sigs[i]'(hl2 ▸ hi) = .absent ∨ sigs[i]'(hl2 ▸ hi) = .sig vals[i] h)
    (hp : validPower vals powers sigs h > th) : checkSigs vals powers sigs h th = true := by
  apply contract_accepts_of_slotsOK _ hp
  apply slotsOK_of_index
  intro i v s hv hs
  obtain ⟨hi, rfl⟩ := List.getElem?_eq_some_iff.1 hv
  obtain ⟨_, rfl⟩ := List.getElem?_eq_some_iff.1 hs
  exact hok i hi

theorem contract_accepts_iff {vals : List Bytes} {powers : List Nat} {sigs : List SigSlot} {h : Bytes}
    {th : Nat} (hok : SlotsOK vals sigs h) :
    checkSigs vals powers sigs h th = true ↔ validPower vals powers sigs h > th :=
  ⟨contract_rejects_less, contract_accepts_of_slotsOK hok⟩

/-- A present slot `j` that is not a signature by `vals[j]` over `h` reverts the whole call, provided
    the loop reaches it: the valid power of the slots before `j` is not yet above the threshold.
    (Earlier invalid slots need no separate hypothesis: they are reached too, and revert as well.) -/
theorem bad_slot_reverts {vals : List Bytes} {powers : List Nat} {sigs : List SigSlot} {h : Bytes} {th : Nat}
    {j : Nat} {v : Bytes} {p : Nat} {a d : Bytes}
    (hv : vals[j]? = some v) (hpw : powers[j]? = some p) (hs : sigs[j]? = some (.sig a d))
    (hbad : ¬ (a = v ∧ d = h))
    (hreach : validPower (vals.take j) (powers.take j) (sigs.take j) h ≤ th) :
    checkSigs vals powers sigs h th = false := by
  rw [checkSigs_eq, go_bad_slot h th j vals powers sigs 0 v p a d hv hpw hs hbad (by omega)]

/-- Why "reached" matters: after the threshold is passed the loop `break`s and later slots are not
    inspected at all, so a bad slot there does not revert. -/
example : checkSigs [[1], [2]] [10, 10] [.sig [1] [7], .sig [9] [9]] [7] 5 = true := by decide

/-! ### 2. `updateValset` -/

/-- A confirmed signer-set update with a larger nonce is accepted; the new checkpoint and nonce are
    stored, one event with the next event nonce is emitted, nothing else changes. -/
theorem update_valset_accepts (s : Hub2St) (newV cur : ValsetArgs) (sigs : List SigSlot)
    (hn : newV.nonce > cur.nonce) (hnl : newV.validators.length = newV.powers.length)
    (hcl : cur.validators.length = cur.powers.length) (hsl : cur.validators.length = sigs.length)
    (hcp : makeCheckpoint s.gravityId cur = s.checkpoint)
    (hok : SlotsOK cur.validators sigs (makeCheckpoint s.gravityId newV))
    (hpow : validPower cur.validators cur.powers sigs (makeCheckpoint s.gravityId newV) > s.threshold) :
    s.updateValset newV cur sigs =
      some ({ s with checkpoint := makeCheckpoint s.gravityId newV, valsetNonce := newV.nonce,
                     eventNonce := s.eventNonce + 1 },
            .valsetUpdated newV.nonce (s.eventNonce + 1)) :=
  (updateValset_eq_some_iff s newV cur sigs _).2
    ⟨⟨hn, hnl, hcl, hsl, hcp, contract_accepts_of_slotsOK hok hpow⟩, rfl⟩

theorem update_valset_accepts_fields (s : Hub2St) (newV cur : ValsetArgs) (sigs : List SigSlot)
    (hn : newV.nonce > cur.nonce) (hnl : newV.validators.length = newV.powers.length)
    (hcl : cur.validators.length = cur.powers.length) (hsl : cur.validators.length = sigs.length)
    (hcp : makeCheckpoint s.gravityId cur = s.checkpoint)
    (hok : SlotsOK cur.validators sigs (makeCheckpoint s.gravityId newV))
    (hpow : validPower cur.validators cur.powers sigs (makeCheckpoint s.gravityId newV) > s.threshold) :
    ∃ s' log, s.updateValset newV cur sigs = some (s', log) ∧
      s'.checkpoint = makeCheckpoint s.gravityId newV ∧ s'.valsetNonce = newV.nonce ∧
      s'.eventNonce = s.eventNonce + 1 ∧ log = .valsetUpdated newV.nonce (s.eventNonce + 1) ∧
      s'.gravityId = s.gravityId ∧ s'.threshold = s.threshold ∧ s'.batchNonces = s.batchNonces ∧
      s'.blockNumber = s.blockNumber ∧ s'.erc20 = s.erc20 ∧ s'.allowance = s.allowance ∧ s'.self = s.self :=
  ⟨_, _, update_valset_accepts s newV cur sigs hn hnl hcl hsl hcp hok hpow,
    rfl, rfl, rfl, rfl, rfl, rfl, rfl, rfl, rfl, rfl, rfl⟩

/-- Conversely, an accepted update had a strictly larger nonce, presented arguments hashing to the
    stored checkpoint, and was confirmed over the NEW checkpoint by more than the threshold of the
    presented set; and its effect is exactly the one above. -/
theorem update_valset_only_if {s : Hub2St} {newV cur : ValsetArgs} {sigs : List SigSlot} {s' : Hub2St}
    {log : EvmLog} (h : s.updateValset newV cur sigs = some (s', log)) :
    newV.nonce > cur.nonce ∧ newV.validators.length = newV.powers.length ∧
      cur.validators.length = cur.powers.length ∧ cur.validators.length = sigs.length ∧
      makeCheckpoint s.gravityId cur = s.checkpoint ∧
      validPower cur.validators cur.powers sigs (makeCheckpoint s.gravityId newV) > s.threshold ∧
      s' = { s with checkpoint := makeCheckpoint s.gravityId newV, valsetNonce := newV.nonce,
                    eventNonce := s.eventNonce + 1 } ∧
      log = .valsetUpdated newV.nonce (s.eventNonce + 1) := by
  obtain ⟨⟨h1, h2, h3, h4, h5, h6⟩, hr⟩ := (updateValset_eq_some_iff s newV cur sigs _).1 h
  injection hr with hs hl
  exact ⟨h1, h2, h3, h4, h5, contract_rejects_less h6, hs, hl⟩

/-! ### 3. `submitBatch` and the ERC-20 payouts -/

theorem payOut_frame {l : List (Bytes × Nat)} {s s' : Hub2St} {token : Bytes}
    (h : payOut s token l = some s') : s' = { s with erc20 := s'.erc20 } := payOut_core l s s' token h

/-- Conservation: over any duplicate-free list of holders containing the contract and every
    destination, the total of the token's balances is unchanged by the payouts. -/
theorem payOut_conserves {l : List (Bytes × Nat)} {s s' : Hub2St} {token : Bytes} {holders : List Bytes}
    (h : payOut s token l = some s') (hnd : holders.Nodup) (hself : s.self ∈ holders)
    (hdest : ∀ p ∈ l, p.1 ∈ holders) :
    sumNats (holders.map (s'.bal token)) = sumNats (holders.map (s.bal token)) := by
  induction l generalizing s with
  | nil => cases h; rfl
  | cons p rest ih =>
    obtain ⟨dest, amt⟩ := p
    obtain ⟨hle, h⟩ := payOut_cons_some.mp h
    rw [ih h (by rw [payStep_self]; exact hself) (fun p hp => hdest p (List.mem_cons_of_mem _ hp))]
    exact payStep_conserves s token dest amt hle hnd hself (hdest (dest, amt) List.mem_cons_self)

theorem payOut_credits {l : List (Bytes × Nat)} {s s' : Hub2St} {token : Bytes}
    (h : payOut s token l = some s') :
    (∀ d, d ≠ s.self → s'.bal token d = s.bal token d + paidTo d l) ∧
    (∀ tk x, tk ≠ token → s'.bal tk x = s.bal tk x) :=
  ⟨fun d hd => payOut_bal_dest l s s' token d h hd,
   fun tk x hne => payOut_bal_other_token l s s' token tk x h hne⟩

theorem payOut_debits {l : List (Bytes × Nat)} {s s' : Hub2St} {token : Bytes}
    (h : payOut s token l = some s') (hne : ∀ p ∈ l, p.1 ≠ s.self) :
    s'.bal token s.self + sumNats (l.map (·.2)) = s.bal token s.self := by
  have := payOut_bal_self l s s' token h
  rwa [filter_ne_self_eq hne] at this

theorem payOut_debits_general {l : List (Bytes × Nat)} {s s' : Hub2St} {token : Bytes}
    (h : payOut s token l = some s') :
    s'.bal token s.self + sumNats ((l.filter (fun p => p.1 != s.self)).map (·.2)) = s.bal token s.self :=
  payOut_bal_self l s s' token h

theorem payOut_succeeds_iff {l : List (Bytes × Nat)} {s : Hub2St} {token : Bytes}
    (hne : ∀ p ∈ l, p.1 ≠ s.self) :
    (payOut s token l).isSome = true ↔ sumNats (l.map (·.2)) ≤ s.bal token s.self :=
  payOut_isSome_iff l s token hne

/-- The conditions under which `submitBatch` does not revert (everything but the payouts). -/
def BatchGuards (s : Hub2St) (cur : ValsetArgs) (sigs : List SigSlot) (b : BatchView) : Prop :=
  s.lastBatchNonce b.token < b.nonce ∧ s.blockNumber < b.timeout ∧
  cur.validators.length = cur.powers.length ∧ cur.validators.length = sigs.length ∧
  makeCheckpoint s.gravityId cur = s.checkpoint ∧
  b.amounts.length = b.destinations.length ∧ b.amounts.length = b.fees.length ∧
  checkSigs cur.validators cur.powers sigs (batchDigest s.gravityId b) s.threshold = true

/-- `submitBatch` accepts iff the nonce is new for the token, the timeout block is in the future,
    the arrays are well-formed, the presented set hashes to the stored checkpoint, the signatures
    pass, and the payouts succeed; the effect is the recorded nonce, the payouts, and one event. -/
theorem submit_batch_iff (s : Hub2St) (cur : ValsetArgs) (sigs : List SigSlot) (b : BatchView)
    (s' : Hub2St) (log : EvmLog) :
    s.submitBatch cur sigs b = some (s', log) ↔
      BatchGuards s cur sigs b ∧
      ∃ s2, payOut { s with batchNonces := alSet s.batchNonces b.token b.nonce } b.token
              (b.destinations.zip b.amounts) = some s2 ∧
        s' = { s2 with eventNonce := s.eventNonce + 1 } ∧
        log = .batchExecuted b.nonce b.token (s.eventNonce + 1) := by
  rw [submitBatch_eq_some_iff]
  refine and_congr_right fun _ => exists_congr fun s2 => and_congr_right fun hp => ?_
  have he : s2.eventNonce = s.eventNonce := by rw [payOut_core _ _ _ _ hp]; rfl
  rw [he, Prod.mk.injEq]

/-- A confirmed batch, in nonce order and before its timeout, whose payouts the contract can
    afford, is accepted. -/
theorem submit_batch_accepts (s : Hub2St) (cur : ValsetArgs) (sigs : List SigSlot) (b : BatchView)
    (hn : s.lastBatchNonce b.token < b.nonce) (hto : s.blockNumber < b.timeout)
    (hcl : cur.validators.length = cur.powers.length) (hsl : cur.validators.length = sigs.length)
    (hcp : makeCheckpoint s.gravityId cur = s.checkpoint)
    (hbl : b.amounts.length = b.destinations.length) (hfl : b.amounts.length = b.fees.length)
    (hok : SlotsOK cur.validators sigs (batchDigest s.gravityId b))
    (hpow : validPower cur.validators cur.powers sigs (batchDigest s.gravityId b) > s.threshold)
    (hne : ∀ d ∈ b.destinations, d ≠ s.self)
    (hfunds : sumNats b.amounts ≤ s.bal b.token s.self) :
    ∃ s', s.submitBatch cur sigs b = some (s', .batchExecuted b.nonce b.token (s.eventNonce + 1)) ∧
      s'.lastBatchNonce b.token = b.nonce ∧ s'.eventNonce = s.eventNonce + 1 ∧
      s'.bal b.token s.self + sumNats b.amounts = s.bal b.token s.self := by
  let s1 : Hub2St := { s with batchNonces := alSet s.batchNonces b.token b.nonce }
  have hne' : ∀ p ∈ b.destinations.zip b.amounts, p.1 ≠ s1.self := fun p hp => hne p.1 (mem_zip_fst hp)
  have hsum : sumNats ((b.destinations.zip b.amounts).map (·.2)) = sumNats b.amounts := by
    rw [map_snd_zip_of_length _ _ (by omega)]
  have hsome : (payOut s1 b.token (b.destinations.zip b.amounts)).isSome = true := by
    rw [payOut_isSome_iff _ _ _ hne', hsum]; exact hfunds
  obtain ⟨s2, hp⟩ := Option.isSome_iff_exists.1 hsome
  refine ⟨{ s2 with eventNonce := s.eventNonce + 1 }, ?_, ?_, rfl, ?_⟩
  · exact (submit_batch_iff s cur sigs b _ _).2
      ⟨⟨hn, hto, hcl, hsl, hcp, hbl, hfl, contract_accepts_of_slotsOK hok hpow⟩, s2, hp, rfl, rfl⟩
  · have : s2.batchNonces = alSet s.batchNonces b.token b.nonce := by rw [payOut_core _ _ _ _ hp]
    simp [Hub2St.lastBatchNonce, this]
  · have := payOut_debits hp hne'
    rw [hsum] at this
    exact this

/-- Conversely an accepted batch satisfied every guard, was confirmed by more than the threshold of
    the presented set over the batch digest, and had exactly the stated effects. -/
theorem submit_batch_only_if {s : Hub2St} {cur : ValsetArgs} {sigs : List SigSlot} {b : BatchView}
    {s' : Hub2St} {log : EvmLog} (h : s.submitBatch cur sigs b = some (s', log)) :
    s.lastBatchNonce b.token < b.nonce ∧ s.blockNumber < b.timeout ∧
      cur.validators.length = cur.powers.length ∧ cur.validators.length = sigs.length ∧
      makeCheckpoint s.gravityId cur = s.checkpoint ∧
      b.amounts.length = b.destinations.length ∧ b.amounts.length = b.fees.length ∧
      validPower cur.validators cur.powers sigs (batchDigest s.gravityId b) > s.threshold ∧
      s' = { s with batchNonces := alSet s.batchNonces b.token b.nonce, eventNonce := s.eventNonce + 1,
                    erc20 := s'.erc20 } ∧
      log = .batchExecuted b.nonce b.token (s.eventNonce + 1) ∧
      s'.lastBatchNonce b.token = b.nonce ∧
      (∀ t, t ≠ b.token → s'.lastBatchNonce t = s.lastBatchNonce t) ∧
      (∀ d, d ≠ s.self → s'.bal b.token d = s.bal b.token d + paidTo d (b.destinations.zip b.amounts)) ∧
      (∀ tk x, tk ≠ b.token → s'.bal tk x = s.bal tk x) ∧
      ((∀ d ∈ b.destinations, d ≠ s.self) →
        s'.bal b.token s.self + sumNats b.amounts = s.bal b.token s.self) := by
  obtain ⟨⟨h1, h2, h3, h4, h5, h6, h7, h8⟩, s2, hp, hs, hl⟩ := (submit_batch_iff s cur sigs b s' log).1 h
  have hcore := payOut_core _ _ _ _ hp
  have hs' : s' = { s with
      batchNonces := alSet s.batchNonces b.token b.nonce, eventNonce := s.eventNonce + 1,
      erc20 := s'.erc20 } := by
    rw [hs, hcore]
  have hbal : ∀ tk x, s'.bal tk x = s2.bal tk x := by intro tk x; rw [hs]; rfl
  refine ⟨h1, h2, h3, h4, h5, h6, h7, contract_rejects_less h8, hs', hl, ?_, ?_, ?_, ?_, ?_⟩
  · rw [hs']; simp [Hub2St.lastBatchNonce]
  · intro t ht
    rw [hs']
    simp only [Hub2St.lastBatchNonce]
    rw [alGet_alSet_other _ _ _ _ (fun e => ht e.symm)]
  · intro d hd
    rw [hbal]
    exact payOut_bal_dest _ (s.batchPre b) _ _ d hp hd
  · intro tk x hne
    rw [hbal]
    exact payOut_bal_other_token _ (s.batchPre b) _ _ tk x hp hne
  · intro hne
    rw [hbal]
    have := payOut_debits hp (fun p hp' => hne p.1 (mem_zip_fst hp'))
    rw [map_snd_zip_of_length _ _ (by omega)] at this
    exact this

theorem batch_not_after_timeout (s : Hub2St) (cur : ValsetArgs) (sigs : List SigSlot) (b : BatchView)
    (h : b.timeout ≤ s.blockNumber) : s.submitBatch cur sigs b = none := by
  cases hr : s.submitBatch cur sigs b with
  | none => rfl
  | some r =>
    have := (submit_batch_only_if (s' := r.1) (log := r.2) hr).2.1
    omega

theorem batch_stale_rejected (s : Hub2St) (cur : ValsetArgs) (sigs : List SigSlot) (b : BatchView)
    (h : b.nonce ≤ s.lastBatchNonce b.token) : s.submitBatch cur sigs b = none := by
  cases hr : s.submitBatch cur sigs b with
  | none => rfl
  | some r =>
    have := (submit_batch_only_if (s' := r.1) (log := r.2) hr).1
    omega

/-! ### 4. `transferToChain` -/

/-- A deposit locks exactly `amount`: the contract gains it, the sender loses it, the event carries
    `amount` and `fee` unchanged with the next event nonce.  The fee is not locked on top (it is
    part of the event only): the contract's gain does not depend on `fee`. -/
theorem transfer_locks_exactly_amount {s : Hub2St} {token sender : Bytes} {amount fee : Nat} {s' : Hub2St}
    {log : EvmLog} (h : s.transferToChain token sender amount fee = some (s', log)) (hne : sender ≠ s.self) :
    s'.bal token s.self = s.bal token s.self + amount ∧
      s'.bal token sender + amount = s.bal token sender ∧
      log = .transferToChain token sender amount fee (s.eventNonce + 1) ∧
      s'.eventNonce = s.eventNonce + 1 ∧
      (∀ tk x, ¬ (tk = token ∧ (x = sender ∨ x = s.self)) → s'.bal tk x = s.bal tk x) ∧
      s'.checkpoint = s.checkpoint ∧ s'.valsetNonce = s.valsetNonce ∧ s'.batchNonces = s.batchNonces ∧
      s'.gravityId = s.gravityId ∧ s'.threshold = s.threshold ∧ s'.self = s.self ∧
      s'.blockNumber = s.blockNumber := by
  obtain ⟨⟨hb, _⟩, hr⟩ := (transferToChain_eq_some_iff s token sender amount fee _).1 h
  injection hr with hs hl
  subst hs
  have hne' : ¬ s.self = sender := fun e => hne e.symm
  refine ⟨?_, ?_, hl, rfl, ?_, rfl, rfl, rfl, rfl, rfl, rfl, rfl⟩
  · rw [bal_afterTransfer]; simp [hne]
  · rw [bal_afterTransfer]; simp [hne]; omega
  · intro tk x hx
    rw [bal_afterTransfer]
    have h1 : ¬ (tk = token ∧ x = s.self) := fun ⟨a, b⟩ => hx ⟨a, Or.inr b⟩
    have h2 : ¬ (tk = token ∧ x = sender) := fun ⟨a, b⟩ => hx ⟨a, Or.inl b⟩
    simp [h1, h2]

theorem transfer_fee_not_locked (s : Hub2St) (token sender : Bytes) (amount fee fee' : Nat) :
    (s.transferToChain token sender amount fee).map (·.1) =
      (s.transferToChain token sender amount fee').map (·.1) := by
  by_cases h : (decide (s.bal token sender < amount) ||
      decide ((alGet s.allowance (token, sender)).getD 0 < amount)) = true <;>
    simp only [Hub2St.transferToChain, h, if_true, if_false, Option.map, Bool.false_eq_true]

theorem transfer_accepts_iff (s : Hub2St) (token sender : Bytes) (amount fee : Nat) :
    (s.transferToChain token sender amount fee).isSome = true ↔
      amount ≤ s.bal token sender ∧ amount ≤ (alGet s.allowance (token, sender)).getD 0 := by
  constructor
  · intro h
    obtain ⟨r, hr⟩ := Option.isSome_iff_exists.1 h
    exact ((transferToChain_eq_some_iff s token sender amount fee r).1 hr).1
  · intro h
    rw [(transferToChain_eq_some_iff s token sender amount fee _).2 ⟨h, rfl⟩]
    rfl

/-- The contract depositing to itself moves nothing (degenerate case excluded above). -/
theorem transfer_from_self {s : Hub2St} {token : Bytes} {amount fee : Nat} {s' : Hub2St} {log : EvmLog}
    (h : s.transferToChain token s.self amount fee = some (s', log)) :
    s'.bal token s.self = s.bal token s.self := by
  obtain ⟨⟨hb, _⟩, hr⟩ := (transferToChain_eq_some_iff s token s.self amount fee _).1 h
  injection hr with hs hl
  subst hs
  rw [bal_afterTransfer]; simp; omega

/-! ### 5. Sequences of operations: nonces only move forward, events are numbered consecutively -/

/-- Anything that happens around the contract without writing its own storage: blocks being mined,
    other ERC-20 transfers and approvals, reverted calls.  The block number never decreases. -/
def EnvStep (s s' : Hub2St) : Prop :=
  s'.gravityId = s.gravityId ∧ s'.threshold = s.threshold ∧ s'.checkpoint = s.checkpoint ∧
  s'.valsetNonce = s.valsetNonce ∧ s'.eventNonce = s.eventNonce ∧ s'.batchNonces = s.batchNonces ∧
  s'.self = s.self ∧ s.blockNumber ≤ s'.blockNumber

/-- One step: a successful call of one of the three entry points (emitting one event), or an
    environment step (emitting none).  `P` restricts the signer-set arguments of `updateValset`
    (`fun _ => True` for no restriction, `ValsetArgs.WT` for "they are EVM values"). -/
inductive Step (P : ValsetArgs → Prop) : Hub2St → List EvmLog → Hub2St → Prop
  | updateValset {s s' : Hub2St} {newV cur : ValsetArgs} {sigs : List SigSlot} {log : EvmLog} :
      P newV → P cur → s.updateValset newV cur sigs = some (s', log) → Step P s [log] s'
  | submitBatch {s s' : Hub2St} {cur : ValsetArgs} {sigs : List SigSlot} {b : BatchView} {log : EvmLog} :
      s.submitBatch cur sigs b = some (s', log) → Step P s [log] s'
  | transferToChain {s s' : Hub2St} {token sender : Bytes} {amount fee : Nat} {log : EvmLog} :
      s.transferToChain token sender amount fee = some (s', log) → Step P s [log] s'
  | env {s s' : Hub2St} : EnvStep s s' → Step P s [] s'

inductive Trace (P : ValsetArgs → Prop) : Hub2St → List EvmLog → Hub2St → Prop
  | nil {s : Hub2St} : Trace P s [] s
  | cons {s s1 s2 : Hub2St} {l1 l2 : List EvmLog} : Step P s l1 s1 → Trace P s1 l2 s2 → Trace P s (l1 ++ l2) s2

def eventNonceOf : EvmLog → Nat
  | .valsetUpdated _ en => en
  | .batchExecuted _ _ en => en
  | .transferToChain _ _ _ _ en => en

def StepFacts (s : Hub2St) (logs : List EvmLog) (s' : Hub2St) : Prop :=
  s'.gravityId = s.gravityId ∧ s'.threshold = s.threshold ∧ s'.self = s.self ∧
  s.blockNumber ≤ s'.blockNumber ∧
  (∀ t, s.lastBatchNonce t ≤ s'.lastBatchNonce t) ∧
  s'.eventNonce = s.eventNonce + logs.length ∧
  logs.map eventNonceOf = List.range' (s.eventNonce + 1) logs.length

theorem updateValset_facts {s s' : Hub2St} {newV cur : ValsetArgs} {sigs : List SigSlot} {log : EvmLog}
    (hu : s.updateValset newV cur sigs = some (s', log)) : StepFacts s [log] s' := by
  obtain ⟨_, _, _, _, _, _, hs, hl⟩ := update_valset_only_if hu
  subst hs hl
  exact ⟨rfl, rfl, rfl, Nat.le_refl _, fun _ => Nat.le_refl _, rfl, rfl⟩

theorem submitBatch_facts {s s' : Hub2St} {cur : ValsetArgs} {sigs : List SigSlot} {b : BatchView} {log : EvmLog}
    (hb : s.submitBatch cur sigs b = some (s', log)) : StepFacts s [log] s' := by
  obtain ⟨h1, _, _, _, _, _, _, _, hs, hl, hsame, hother, _⟩ := submit_batch_only_if hb
  subst hl
  refine ⟨by rw [hs], by rw [hs], by rw [hs], by rw [hs]; exact Nat.le_refl _, ?_, by rw [hs]; rfl, rfl⟩
  intro t
  by_cases ht : t = b.token
  · subst ht; omega
  · rw [hother t ht]; exact Nat.le_refl _

theorem transferToChain_facts {s s' : Hub2St} {token sender : Bytes} {amount fee : Nat} {log : EvmLog}
    (ht : s.transferToChain token sender amount fee = some (s', log)) : StepFacts s [log] s' := by
  obtain ⟨⟨_, _⟩, hr⟩ := (transferToChain_eq_some_iff _ _ _ _ _ _).1 ht
  injection hr with hs hl
  subst hs hl
  exact ⟨rfl, rfl, rfl, Nat.le_refl _, fun _ => Nat.le_refl _, rfl, rfl⟩

theorem step_facts {P : ValsetArgs → Prop} {s s' : Hub2St} {logs : List EvmLog} (h : Step P s logs s') :
    StepFacts s logs s' := by
  cases h with
  | updateValset _ _ hu => exact updateValset_facts hu
  | submitBatch hb => exact submitBatch_facts hb
  | transferToChain ht => exact transferToChain_facts ht
  | env he =>
    obtain ⟨h1, h2, _, _, h5, h6, h7, h8⟩ := he
    refine ⟨h1, h2, h7, h8, ?_, by simpa using h5, rfl⟩
    intro t
    simp [Hub2St.lastBatchNonce, h6]

theorem StepFacts.trans {s s1 s2 : Hub2St} {l1 l2 : List EvmLog} (h1 : StepFacts s l1 s1)
    (h2 : StepFacts s1 l2 s2) : StepFacts s (l1 ++ l2) s2 := by
  obtain ⟨a1, b1, c1, d1, e1, f1, g1⟩ := h1
  obtain ⟨a2, b2, c2, d2, e2, f2, g2⟩ := h2
  refine ⟨a2.trans a1, b2.trans b1, c2.trans c1, Nat.le_trans d1 d2,
    fun t => Nat.le_trans (e1 t) (e2 t), ?_, ?_⟩
  · rw [f2, f1, List.length_append, Nat.add_assoc]
  · rw [List.map_append, g1, g2, f1, List.length_append, Nat.add_right_comm _ _ 1, List.range'_append_1]

theorem trace_facts {P : ValsetArgs → Prop} {s s' : Hub2St} {logs : List EvmLog} (h : Trace P s logs s') :
    StepFacts s logs s' := by
  induction h with
  | nil => exact ⟨rfl, rfl, rfl, Nat.le_refl _, fun _ => Nat.le_refl _, rfl, rfl⟩
  | cons hs _ ih => exact (step_facts hs).trans ih

theorem trace_constants {P : ValsetArgs → Prop} {s s' : Hub2St} {logs : List EvmLog} (h : Trace P s logs s') :
    s'.gravityId = s.gravityId ∧ s'.threshold = s.threshold ∧ s'.self = s.self :=
  let ⟨a, b, c, _⟩ := trace_facts h
  ⟨a, b, c⟩

theorem block_number_monotone {P : ValsetArgs → Prop} {s s' : Hub2St} {logs : List EvmLog}
    (h : Trace P s logs s') : s.blockNumber ≤ s'.blockNumber := (trace_facts h).2.2.2.1

/-- `state_lastBatchNonces[token]` never decreases, whatever happens. -/
theorem batch_nonce_monotone {P : ValsetArgs → Prop} {s s' : Hub2St} {logs : List EvmLog}
    (h : Trace P s logs s') (t : Bytes) : s.lastBatchNonce t ≤ s'.lastBatchNonce t :=
  (trace_facts h).2.2.2.2.1 t

theorem event_nonce_counts_accepted {P : ValsetArgs → Prop} {s s' : Hub2St} {logs : List EvmLog}
    (h : Trace P s logs s') : s'.eventNonce = s.eventNonce + logs.length := (trace_facts h).2.2.2.2.2.1

theorem event_nonce_monotone {P : ValsetArgs → Prop} {s s' : Hub2St} {logs : List EvmLog}
    (h : Trace P s logs s') : s.eventNonce ≤ s'.eventNonce := by
  rw [event_nonce_counts_accepted h]; omega

/-- The events the hub's oracles observe carry consecutive event nonces, starting right after the
    contract's current one: no gap, no repeat.  This is what lets the hub apply them strictly in
    order (C03) and keeps hub and external nonces in step. -/
theorem event_nonces_consecutive {P : ValsetArgs → Prop} {s s' : Hub2St} {logs : List EvmLog}
    (h : Trace P s logs s') : logs.map eventNonceOf = List.range' (s.eventNonce + 1) logs.length :=
  (trace_facts h).2.2.2.2.2.2

/-- After a batch was executed, the same batch — or any batch of that token with the same or a
    smaller nonce — is rejected in every later state. -/
theorem batch_executed_at_most_once {P : ValsetArgs → Prop} {s s1 s2 : Hub2St} {cur : ValsetArgs}
    {sigs : List SigSlot} {b : BatchView} {log : EvmLog} {logs : List EvmLog}
    (hex : s.submitBatch cur sigs b = some (s1, log)) (htr : Trace P s1 logs s2)
    (cur' : ValsetArgs) (sigs' : List SigSlot) (b' : BatchView)
    (htok : b'.token = b.token) (hn : b'.nonce ≤ b.nonce) :
    s2.submitBatch cur' sigs' b' = none := by
  apply batch_stale_rejected
  have h1 : s1.lastBatchNonce b.token = b.nonce := (submit_batch_only_if hex).2.2.2.2.2.2.2.2.2.2.1
  have h2 := batch_nonce_monotone htr b.token
  rw [htok]; omega

theorem batch_not_after_timeout_later {P : ValsetArgs → Prop} {s s' : Hub2St} {logs : List EvmLog}
    (htr : Trace P s logs s') (cur : ValsetArgs) (sigs : List SigSlot) (b : BatchView)
    (h : b.timeout ≤ s.blockNumber) : s'.submitBatch cur sigs b = none :=
  batch_not_after_timeout s' cur sigs b (Nat.le_trans h (block_number_monotone htr))

theorem batch_events_increasing {P : ValsetArgs → Prop} {s s' : Hub2St} {logs : List EvmLog}
    (h : Trace P s logs s') (n : Nat) (t : Bytes) (en : Nat) (hm : .batchExecuted n t en ∈ logs) :
    s.lastBatchNonce t < n ∧ n ≤ s'.lastBatchNonce t := by
  induction h with
  | nil => simp at hm
  | @cons s s1 s2 l1 l2 hs htr ih =>
    rcases List.mem_append.1 hm with hm1 | hm2
    · have hmono := batch_nonce_monotone htr t
      cases hs with
      | updateValset _ _ hu =>
        obtain ⟨_, _, _, _, _, _, _, hl⟩ := update_valset_only_if hu
        subst hl; simp at hm1
      | submitBatch hb =>
        obtain ⟨h1, _, _, _, _, _, _, _, _, hl, hsame, _⟩ := submit_batch_only_if hb
        subst hl
        simp only [List.mem_singleton, EvmLog.batchExecuted.injEq] at hm1
        obtain ⟨rfl, rfl, _⟩ := hm1
        omega
      | transferToChain ht =>
        obtain ⟨_, hr⟩ := (transferToChain_eq_some_iff _ _ _ _ _ _).1 ht
        injection hr with _ hl
        subst hl; simp at hm1
      | env _ => simp at hm1
    · have := ih hm2
      have := (step_facts hs).2.2.2.2.1 t
      omega

/-! #### The signer-set nonce

  `updateValset` compares the new nonce with the *presented* current nonce; the presented set is
  tied to the stored one only through the checkpoint hash.  So "the stored nonce never decreases"
  needs (a) collision resistance for the checkpoint hash, as a hypothesis, (b) the arguments to be
  EVM values (`ValsetArgs.WT`, guaranteed by calldata decoding), and (c) the invariant that the
  stored checkpoint is the hash of a set whose nonce is the stored nonce — true at deployment
  (constructor) and preserved by every step. -/

/-- Collision resistance of `keccak256`, used only as a hypothesis. -/
def CollisionFree : Prop := ∀ x y : Bytes, keccak256 x = keccak256 y → x = y

/-- The stored checkpoint is the checkpoint of a well-typed set carrying the stored nonce. -/
def CheckpointInv (s : Hub2St) : Prop :=
  s.gravityId.length = 32 ∧
  ∃ v : ValsetArgs, v.WT ∧ s.checkpoint = makeCheckpoint s.gravityId v ∧ s.valsetNonce = v.nonce

/-- The checkpoint binds the signer set.  If the two pre-images do not collide under
    `keccak256` (hypothesis `hcr`), equal checkpoints mean equal `(validators, powers, nonce)`: the
    relayer must present exactly the stored set, in the stored order. -/
theorem checkpoint_binds_set {g : Bytes} {v1 v2 : ValsetArgs} (hg : g.length = 32) (h1 : v1.WT) (h2 : v2.WT)
    (hcr : keccak256 (checkpointPre g v1) = keccak256 (checkpointPre g v2) →
      checkpointPre g v1 = checkpointPre g v2)
    (h : makeCheckpoint g v1 = makeCheckpoint g v2) : v1 = v2 :=
  checkpointPre_inj hg h1 h2 (hcr h)

theorem checkpoint_binds_set' (hcr : CollisionFree) {g : Bytes} {v1 v2 : ValsetArgs} (hg : g.length = 32)
    (h1 : v1.WT) (h2 : v2.WT) (h : makeCheckpoint g v1 = makeCheckpoint g v2) : v1 = v2 :=
  checkpoint_binds_set hg h1 h2 (hcr _ _) h

/-- Signer-set updates are accepted in nonce order: the presented set IS the stored one, so the new
    nonce is strictly above the stored nonce; and the invariant is re-established. -/
theorem update_valset_in_nonce_order (hcr : CollisionFree) {s s' : Hub2St} {newV cur : ValsetArgs}
    {sigs : List SigSlot} {log : EvmLog} (hinv : CheckpointInv s) (hwn : newV.WT) (hwc : cur.WT)
    (h : s.updateValset newV cur sigs = some (s', log)) :
    cur.nonce = s.valsetNonce ∧ s.valsetNonce < s'.valsetNonce ∧ s'.valsetNonce = newV.nonce ∧
      CheckpointInv s' := by
  obtain ⟨hg, v, hv, hck, hvn⟩ := hinv
  obtain ⟨hn, _, _, _, hcp, _, hs, _⟩ := update_valset_only_if h
  have hcv : cur = v := checkpoint_binds_set' hcr hg hwc hv (hcp.trans hck)
  subst hcv hs
  exact ⟨hvn.symm, by rw [hvn]; exact hn, rfl, hg, newV, hwn, rfl, rfl⟩

theorem step_valset {hcr : CollisionFree} {s s' : Hub2St} {logs : List EvmLog}
    (h : Step ValsetArgs.WT s logs s') (hinv : CheckpointInv s) :
    CheckpointInv s' ∧ s.valsetNonce ≤ s'.valsetNonce := by
  cases h with
  | updateValset hp1 hp2 hu =>
    obtain ⟨_, hlt, _, hi⟩ := update_valset_in_nonce_order hcr hinv hp1 hp2 hu
    exact ⟨hi, Nat.le_of_lt hlt⟩
  | submitBatch hb =>
    obtain ⟨_, _, _, _, _, _, _, _, hs, _⟩ := submit_batch_only_if hb
    have e1 : s'.gravityId = s.gravityId := by rw [hs]
    have e2 : s'.checkpoint = s.checkpoint := by rw [hs]
    have e3 : s'.valsetNonce = s.valsetNonce := by rw [hs]
    unfold CheckpointInv
    rw [e1, e2, e3]; exact ⟨hinv, Nat.le_refl _⟩
  | transferToChain ht =>
    obtain ⟨_, hr⟩ := (transferToChain_eq_some_iff _ _ _ _ _ _).1 ht
    injection hr with hs _
    subst hs
    exact ⟨hinv, Nat.le_refl _⟩
  | env he =>
    obtain ⟨e1, _, e2, e3, _⟩ := he
    unfold CheckpointInv
    rw [e1, e2, e3]; exact ⟨hinv, Nat.le_refl _⟩

theorem valset_nonce_monotone (hcr : CollisionFree) {s s' : Hub2St} {logs : List EvmLog}
    (h : Trace ValsetArgs.WT s logs s') (hinv : CheckpointInv s) :
    s.valsetNonce ≤ s'.valsetNonce ∧ s.eventNonce ≤ s'.eventNonce ∧ CheckpointInv s' := by
  have key : s.valsetNonce ≤ s'.valsetNonce ∧ CheckpointInv s' := by
    induction h with
    | nil => exact ⟨Nat.le_refl _, hinv⟩
    | cons hs _ ih =>
      obtain ⟨hi, hle⟩ := step_valset (hcr := hcr) hs hinv
      exact ⟨Nat.le_trans hle (ih hi).1, (ih hi).2⟩
  exact ⟨key.1, event_nonce_monotone h, key.2⟩

theorem valset_events_increasing (hcr : CollisionFree) {s s' : Hub2St} {logs : List EvmLog}
    (h : Trace ValsetArgs.WT s logs s') (hinv : CheckpointInv s) (n en : Nat)
    (hm : .valsetUpdated n en ∈ logs) : s.valsetNonce < n ∧ n ≤ s'.valsetNonce := by
  induction h with
  | nil => simp at hm
  | @cons s s1 s2 l1 l2 hs htr ih =>
    obtain ⟨hi1, hle1⟩ := step_valset (hcr := hcr) hs hinv
    rcases List.mem_append.1 hm with hm1 | hm2
    · have hmono := (valset_nonce_monotone hcr htr hi1).1
      cases hs with
      | updateValset hp1 hp2 hu =>
        obtain ⟨_, hlt, hnew, _⟩ := update_valset_in_nonce_order hcr hinv hp1 hp2 hu
        obtain ⟨_, _, _, _, _, _, _, hl⟩ := update_valset_only_if hu
        subst hl
        simp only [List.mem_singleton, EvmLog.valsetUpdated.injEq] at hm1
        obtain ⟨rfl, _⟩ := hm1
        omega
      | submitBatch hb =>
        obtain ⟨_, _, _, _, _, _, _, _, _, hl, _⟩ := submit_batch_only_if hb
        subst hl; simp at hm1
      | transferToChain ht =>
        obtain ⟨_, hr⟩ := (transferToChain_eq_some_iff _ _ _ _ _ _).1 ht
        injection hr with _ hl
        subst hl; simp at hm1
      | env _ => simp at hm1
    · have := ih hi1 hm2
      omega

/-- What holds without any assumption on the hash: the new stored nonce is above the *presented*
    nonce, and the presented set hashes to the stored checkpoint. -/
theorem valset_nonce_monotone_partial {s s' : Hub2St} {newV cur : ValsetArgs} {sigs : List SigSlot}
    {log : EvmLog} (h : s.updateValset newV cur sigs = some (s', log)) :
    cur.nonce < s'.valsetNonce ∧ makeCheckpoint s.gravityId cur = s.checkpoint := by
  obtain ⟨hn, _, _, _, hcp, _, hs, _⟩ := update_valset_only_if h
  subst hs
  exact ⟨hn, hcp⟩

/-! ### 6. The Minter multisig -/

/-- The weights the connector installs sum to at most 1000: Σ⌊pᵢ·1000/T⌋ ≤ 1000 with T = Σpᵢ. -/
theorem minter_weights_sum_le (powers : List Nat) : sumNats (minterWeights powers) ≤ 1000 := by
  rw [minterWeights_eq]
  exact sumNats_floor_le 1000 powers

theorem minter_accepts_iff (next n : Nat) (weights : List Nat) (signed : List Bool) :
    minterAccepts next n weights signed = true ↔ n = next ∧ signedSum weights signed ≥ 667 := by
  rw [minterAccepts_eq]; simp [minterThreshold]

/-- Accepted by the multisig ⇒ it carries the next nonce and the signing members hold at least
    66.7 % of the hub power the weights were computed from (floors only lose weight).  No length
    hypothesis is needed: `zip` ignores surplus entries on either side. -/
theorem minter_accept_needs_two_thirds {next n : Nat} {powers : List Nat} {signed : List Bool}
    (h : minterAccepts next n (minterWeights powers) signed = true) :
    n = next ∧ 1000 * signedSum powers signed ≥ 667 * sumNats powers := by
  obtain ⟨hn, hw⟩ := (minter_accepts_iff _ _ _ _).1 h
  refine ⟨hn, ?_⟩
  rw [minterWeights_eq] at hw
  have hle := signedSum_floor_mul_le 1000 (sumNats powers) powers signed
  have := Nat.mul_le_mul_right (sumNats powers) hw
  omega

/-- Floors can lose up to one unit of weight per member, so 66.7 % is necessary but not always
    sufficient: here the signers hold 668/1001 ≈ 66.73 % and are still rejected (666 < 667). -/
example : minterAccepts 5 5 (minterWeights [334, 334, 333]) [true, true, false] = false ∧
    1000 * signedSum [334, 334, 333] [true, true, false] ≥ 667 * sumNats [334, 334, 333] := by decide

/-- A sufficient share: with `m` signing members, `1000·(signed power) > 666·T + m·(T−1)` is enough
    (each floor loses less than one unit). -/
theorem minter_accepts_enough {next : Nat} {powers : List Nat} {signed : List Bool}
    (hT : 0 < sumNats powers)
    (h : 1000 * signedSum powers signed >
      666 * sumNats powers + signedSum (powers.map fun _ => 1) signed * (sumNats powers - 1)) :
    minterAccepts next next (minterWeights powers) signed = true := by
  rw [minter_accepts_iff, minterWeights_eq]
  refine ⟨rfl, ?_⟩
  have hk := signedSum_floor_lower 1000 hT powers signed
  apply Nat.le_of_not_lt
  intro hlt
  have : signedSum (powers.map fun p => p * 1000 / sumNats powers) signed * sumNats powers ≤
      666 * sumNats powers := Nat.mul_le_mul_right _ (by omega)
  omega

/-- A stream of multisig transactions `(nonce, installed weights, signature bitmap)` submitted in any
    order and with any weights; returns the nonces of the accepted ones.  The multisig's next nonce
    advances exactly on acceptance. -/
def minterRun : Nat → List (Nat × List Nat × List Bool) → List Nat
  | _, [] => []
  | next, (n, ws, signed) :: rest =>
    if minterAccepts next n ws signed then n :: minterRun (next + 1) rest else minterRun next rest

/-- Only the transaction whose nonce equals the multisig's next nonce can be accepted, so the
    accepted outgoing sequence numbers are `next, next+1, …` — consumed strictly in order, without
    gap or repeat. -/
theorem minter_sequence_gapfree (next : Nat) (txs : List (Nat × List Nat × List Bool)) :
    minterRun next txs = List.range' next (minterRun next txs).length := by
  induction txs generalizing next with
  | nil => rfl
  | cons t rest ih =>
    obtain ⟨n, ws, signed⟩ := t
    unfold minterRun
    by_cases hacc : minterAccepts next n ws signed = true
    · have hn : n = next := ((minter_accepts_iff _ _ _ _).1 hacc).1
      simp only [hacc, if_true, List.length_cons, List.range'_succ]
      rw [← ih (next + 1), hn]
    · simp only [hacc, Bool.false_eq_true, if_false]
      exact ih next

theorem minter_wrong_nonce_rejected {next n : Nat} (weights : List Nat) (signed : List Bool) (h : n ≠ next) :
    minterAccepts next n weights signed = false := by
  cases hc : minterAccepts next n weights signed with
  | false => rfl
  | true => exact absurd ((minter_accepts_iff _ _ _ _).1 hc).1 h

/-! ### 7. Bridge to the Solidity source (regenerated facts) -/

theorem fact_sol_check_sigs_requires : Generated.sol_check_sigs_requires =
    "verifySig(_currentValidators[i], _theHash, _v[i], _r[i], _s[i]) | cumulativePower > _powerThreshold" := rfl
theorem fact_sol_check_sigs_ifs : Generated.sol_check_sigs_ifs =
    "_v[i] != 0 | cumulativePower > _powerThreshold" := rfl
theorem fact_sol_update_valset_requires : Generated.sol_update_valset_requires =
    "_newValsetNonce > _currentValsetNonce | _newValidators.length == _newPowers.length | _currentValidators.length == _currentPowers.length && _currentValidators.length == _v.length && _currentValidators.length == _r.length && _currentValidators.length == _s.length | makeCheckpoint( _currentValidators, _currentPowers, _currentValsetNonce, state_gravityId ) == state_lastValsetCheckpoint" := rfl
theorem fact_sol_submit_batch_requires : Generated.sol_submit_batch_requires =
    "state_lastBatchNonces[_tokenContract] < _batchNonce | block.number < _batchTimeout | _currentValidators.length == _currentPowers.length && _currentValidators.length == _v.length && _currentValidators.length == _r.length && _currentValidators.length == _s.length | makeCheckpoint( _currentValidators, _currentPowers, _currentValsetNonce, state_gravityId ) == state_lastValsetCheckpoint | _amounts.length == _destinations.length && _amounts.length == _fees.length" := rfl
theorem fact_sol_transfer_lock : Generated.sol_transfer_lock =
    "msg.sender, address(this), _amount" := rfl
theorem fact_sol_transfer_event : Generated.sol_transfer_event =
    "_tokenContract, msg.sender, _destinationChain, _destination, _amount, _fee, state_lastEventNonce" := rfl

/-! ### 8. Non-vacuity -/

section Examples

example : checkSigs [[1], [2], [3]] [10, 20, 30] [.sig [1] [9], .absent, .sig [3] [9]] [9] 35 = true := by decide
example : validPower [[1], [2], [3]] [10, 20, 30] [.sig [1] [9], .absent, .sig [3] [9]] [9] = 40 := by decide
/-- Confirmed by exactly the threshold (not more): rejected. -/
example : checkSigs [[1], [2], [3]] [10, 20, 30] [.sig [1] [9], .absent, .sig [3] [9]] [9] 40 = false := by decide
example : checkSigs [[1], [2], [3]] [10, 20, 30] [.sig [1] [9], .sig [2] [8], .sig [3] [9]] [9] 35 = false := by
  decide
example : checkSigs [[1], [2], [3]] [10, 20, 30] [.sig [1] [9], .sig [3] [9], .sig [3] [9]] [9] 35 = false := by
  decide
example : checkSigs [[1], [2], [3]] [10, 20, 30] [.sig [1] [9], .sig [2] [8], .sig [3] [9]] [9] 35 = false :=
  bad_slot_reverts (j := 1) (v := [2]) (p := 20) (a := [2]) (d := [8]) rfl rfl rfl (by decide) (by decide)

def exCur : ValsetArgs := { validators := [[1], [2], [3]], powers := [10, 20, 30], nonce := 4 }
def exNew : ValsetArgs := { validators := [[1], [2]], powers := [50, 50], nonce := 5 }
def exSt : Hub2St :=
  { threshold := 35, checkpoint := makeCheckpoint [] exCur, valsetNonce := 4, eventNonce := 7,
    erc20 := [(([0xaa], [0xcc]), 100), (([0xaa], [0x01]), 20)], allowance := [(([0xaa], [0x01]), 50)],
    self := [0xcc], blockNumber := 10 }

/-- Validators 1 and 3 signed `H` (any digest): valid power 40.  Stated for a variable digest so that
    no proof term ever makes the kernel compare two keccak values. -/
theorem exPower (H : Bytes) :
    validPower [[1], [2], [3]] [10, 20, 30] [.sig [1] H, .absent, .sig [3] H] H = 40 := by
  simp [SigSlot.validFor, validPower_nil_left]

/-- `update_valset_accepts` is not vacuous (the digest stays symbolic: keccak is not evaluated). -/
example : ∃ s', exSt.updateValset exNew exCur
      [.sig [1] (makeCheckpoint [] exNew), .absent, .sig [3] (makeCheckpoint [] exNew)] =
      some (s', .valsetUpdated 5 8) ∧ s'.valsetNonce = 5 ∧ s'.eventNonce = 8 :=
  ⟨_, update_valset_accepts exSt exNew exCur _ (by decide) rfl rfl rfl rfl
      ⟨Or.inr rfl, Or.inl rfl, Or.inr rfl, trivial⟩
      (Nat.lt_of_lt_of_eq (by decide : 35 < 40) (exPower _).symm), rfl, rfl⟩

def exBatch : BatchView :=
  { amounts := [5, 6], destinations := [[0x01], [0x02]], fees := [1, 1], nonce := 3, token := [0xaa], timeout := 11 }

example : ∃ s', exSt.submitBatch exCur
      [.sig [1] (batchDigest [] exBatch), .absent, .sig [3] (batchDigest [] exBatch)] exBatch =
      some (s', .batchExecuted 3 [0xaa] 8) ∧ s'.lastBatchNonce [0xaa] = 3 ∧
      s'.bal [0xaa] [0xcc] + 11 = 100 := by
  obtain ⟨s', h1, h2, _, h4⟩ := submit_batch_accepts exSt exCur
    [.sig [1] (batchDigest [] exBatch), .absent, .sig [3] (batchDigest [] exBatch)] exBatch
    (by decide) (by decide) rfl rfl rfl rfl rfl ⟨Or.inr rfl, Or.inl rfl, Or.inr rfl, trivial⟩
    (Nat.lt_of_lt_of_eq (by decide : 35 < 40) (exPower _).symm) (by decide) (by decide)
  exact ⟨s', h1, h2, h4⟩

example (sigs : List SigSlot) : ({ exSt with blockNumber := 11 }).submitBatch exCur sigs exBatch = none :=
  batch_not_after_timeout _ _ _ _ (by decide)
example (sigs : List SigSlot) :
    ({ exSt with batchNonces := [([0xaa], 3)] }).submitBatch exCur sigs exBatch = none :=
  batch_stale_rejected _ _ _ _ (by decide)

example : (exSt.transferToChain [0xaa] [0x01] 5 1).map
    (fun r => (r.1.bal [0xaa] [0xcc], r.1.bal [0xaa] [0x01], alGet r.1.allowance ([0xaa], [0x01]), r.1.eventNonce)) =
    some (105, 15, some 45, 8) := by decide
example : (exSt.transferToChain [0xaa] [0x01] 21 1).isSome = false := by decide
example : (exSt.transferToChain [0xaa] [0x01] 5 1).map (fun r => r.2 == .transferToChain [0xaa] [0x01] 5 1 8) =
    some true := by decide

example : ∃ s' logs, Trace (fun _ => True) exSt logs s' ∧ logs.map eventNonceOf = [8, 9] := by
  obtain ⟨r1, h1⟩ := Option.isSome_iff_exists.1
    ((transfer_accepts_iff exSt [0xaa] [0x01] 5 1).2 (by decide))
  obtain ⟨r2, h2⟩ := Option.isSome_iff_exists.1
    ((transfer_accepts_iff r1.1 [0xaa] [0x01] 0 0).2 ⟨Nat.zero_le _, Nat.zero_le _⟩)
  have tr : Trace (fun _ => True) exSt ([r1.2] ++ ([r2.2] ++ [])) r2.1 :=
    .cons (.transferToChain h1) (.cons (.transferToChain h2) .nil)
  exact ⟨_, _, tr, event_nonces_consecutive tr⟩

/-- The checkpoint invariant holds in a freshly deployed contract (constructor: nonce 0). -/
example : CheckpointInv
    { gravityId := List.replicate 32 0,
      checkpoint := makeCheckpoint (List.replicate 32 0)
        { validators := [List.replicate 20 1], powers := [4294967295], nonce := 0 } } :=
  ⟨by decide, _, ⟨by decide, by decide, by decide, by decide, by decide⟩, rfl, rfl⟩

def exCurBig : ValsetArgs := { exCur with nonce := 2 ^ 256 + 5 }
def exCurSmall : ValsetArgs := { exCur with nonce := 5 }
def exNew6 : ValsetArgs := { exNew with nonce := 6 }
def exStBig : Hub2St := { exSt with checkpoint := makeCheckpoint [] exCurBig, valsetNonce := 2 ^ 256 + 5 }

/-- A `uint256` word holds its value modulo `2^256`: nonces `5` and `2^256 + 5` share a pre-image. -/
theorem exPreWrap : checkpointPre [] exCurSmall = checkpointPre [] exCurBig :=
  checkpointPre_congr_nonce [] rfl rfl (Enc.beBytes_of_mod (by decide))

theorem exCkWrap : makeCheckpoint [] exCurSmall = makeCheckpoint [] exCurBig := by
  rw [makeCheckpoint_eq, makeCheckpoint_eq, exPreWrap]

/-- Why `valset_nonce_monotone` asks for EVM-typed arguments (`ValsetArgs.WT`): the model's naturals
    are unbounded, so a (non-EVM) stored nonce `2^256 + 5` has the same checkpoint as nonce `5`, and
    the stored nonce can then go DOWN from `2^256 + 5` to `6`.  On the real contract calldata
    decoding makes this impossible (every `uint256` is below `2^256`). -/
example : ∃ s', exStBig.updateValset exNew6 exCurSmall
      [.sig [1] (makeCheckpoint [] exNew6), .absent, .sig [3] (makeCheckpoint [] exNew6)] =
        some (s', .valsetUpdated 6 8) ∧ s'.valsetNonce = 6 ∧ s'.valsetNonce < exStBig.valsetNonce :=
  ⟨_, update_valset_accepts exStBig exNew6 exCurSmall _ (by decide) rfl rfl rfl exCkWrap
      ⟨Or.inr rfl, Or.inl rfl, Or.inr rfl, trivial⟩
      (Nat.lt_of_lt_of_eq (by decide : 35 < 40) (exPower _).symm), rfl, by decide⟩

example : minterWeights [334, 333, 333] = [334, 333, 333] := by decide
example : minterAccepts 5 5 (minterWeights [334, 333, 333]) [true, true, false] = true := by decide
example : minterAccepts 5 5 (minterWeights [334, 333, 333]) [false, true, true] = false := by decide
example : minterAccepts 5 6 (minterWeights [334, 333, 333]) [true, true, false] = false := by decide
example : minterRun 5
    [(6, [334, 333, 333], [true, true, true]), (5, [334, 333, 333], [true, true, false]),
     (5, [334, 333, 333], [true, true, true]), (6, [334, 333, 333], [true, true, false])] = [5, 6] := by decide

end Examples

end Mhub2.C08
