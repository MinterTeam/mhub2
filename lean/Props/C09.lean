/-
  C09 — Signer sets mirror bonded voting power.

  About `Hub.currentSigners` (CurrentSignerSet), `sortSigners`, `Hub.createSignerSet`,
  `Hub.createSignerSetTxs` (the begin-block decision) and `powerDiffNum` (PowerDiff, as an integer
  numerator over 2^32 − 1).
-/
import Mhub2.Step
import Mhub2.Generated.Facts
import Lemmas.Keys
namespace Mhub2.C09
open Mhub2

/-! ### Who is a member -/

/-- The members of the current signer set are, in the staking keeper's bonded-by-power order, the
    registered non-zero external addresses of the bonded validators — nobody else, nobody twice
    unless listed twice by the staking keeper. -/
theorem members_exact {h : Hub} {chain : String} {l : List Signer}
    (hok : h.currentSigners chain = .ok l) :
    l.map (·.addr) = h.bondedByPower.filterMap fun v =>
      match alGet (h.chain chain).valExt v.addr with
      | some e => if e == zeroEth then none else some e
      | none => none := by
  rw [(currentSigners_ok hok).1, List.map_map]
  unfold Hub.rawSigners
  rw [List.map_filterMap]
  congr 1
  funext v
  unfold regSigner
  cases alGet (h.chain chain).valExt v.addr with
  | none => rfl
  | some e => by_cases hz : (e == zeroEth) = true <;> simp [hz]

/-- The validators the members are drawn from are exactly the bonded validators of the staking
    view (each as often as it is listed there). -/
theorem members_source (h : Hub) : h.bondedByPower.Perm (h.staking.filter (·.bonded)) :=
  bondedByPower_perm h

theorem member_iff {h : Hub} {chain : String} {l : List Signer}
    (hok : h.currentSigners chain = .ok l) (e : String) :
    e ∈ l.map (·.addr) ↔
      ∃ v ∈ h.staking, v.bonded = true ∧ alGet (h.chain chain).valExt v.addr = some e ∧ e ≠ zeroEth := by
  rw [(currentSigners_ok hok).1, List.map_map]
  unfold Hub.rawSigners
  simp only [List.mem_map, List.mem_filterMap, Function.comp]
  constructor
  · rintro ⟨s, ⟨v, hv, hs⟩, he⟩
    have hm := (bondedByPower_perm h).mem_iff.mp hv
    obtain ⟨h1, h2, _⟩ := regSigner_some.mp hs
    subst he
    exact ⟨v, (List.mem_filter.mp hm).1, (List.mem_filter.mp hm).2, h1, h2⟩
  · rintro ⟨v, hv, hb, h1, h2⟩
    refine ⟨⟨v.power, e⟩, ⟨v, (bondedByPower_perm h).mem_iff.mpr (List.mem_filter.mpr ⟨hv, hb⟩), ?_⟩, rfl⟩
    exact regSigner_some.mpr ⟨h1, h2, rfl⟩

/-- With a one-to-one registry (C17, every reachable state) and validators listed once, member
    addresses are pairwise distinct. -/
theorem members_distinct {h : Hub} {chain : String} {l : List Signer}
    (hi : RegInv (h.chain chain)) (hs : (h.staking.map (·.addr)).Nodup)
    (hok : h.currentSigners chain = .ok l) : (l.map (·.addr)).Nodup :=
  currentSigners_addr_nodup hi hs hok

/-! ### Powers are normalised to 2^32 − 1 -/

/-- Each member's power is `⌊p · (2^32 − 1) / total⌋` with `p` the validator's staking power and
    `total` the sum of the members' staking powers; so it is within one unit below the exact
    proportion, and the normalised powers sum to at most 2^32 − 1. -/
theorem power_normalised {h : Hub} {chain : String} {l : List Signer}
    (hok : h.currentSigners chain = .ok l) :
    ∃ total, total = sumNats ((h.rawSigners chain).map (·.power)) ∧
      l = (h.rawSigners chain).map (fun s => ⟨s.power * 4294967295 / total, s.addr⟩) ∧
      (∀ s ∈ h.rawSigners chain, ∃ v ∈ h.bondedByPower, s.power = v.power ∧
        alGet (h.chain chain).valExt v.addr = some s.addr) ∧
      (l ≠ [] → 0 < total ∧ ∀ s ∈ h.rawSigners chain,
        (s.power * 4294967295 / total) * total ≤ s.power * 4294967295 ∧
        s.power * 4294967295 < (s.power * 4294967295 / total + 1) * total) ∧
      sumNats (l.map (·.power)) ≤ 4294967295 := by
  obtain ⟨hl, hpos⟩ := currentSigners_ok hok
  refine ⟨_, rfl, hl, ?_, ?_, ?_⟩
  · intro s hs
    obtain ⟨v, hv, hf⟩ := List.mem_filterMap.mp hs
    obtain ⟨h1, _, h3⟩ := regSigner_some.mp hf
    exact ⟨v, hv, h3, h1⟩
  · intro hne
    have hT := hpos hne
    refine ⟨hT, fun s _ => ?_⟩
    generalize sumNats ((h.rawSigners chain).map (·.power)) = T at hT
    generalize s.power * 4294967295 = a
    have h1 := Nat.div_add_mod a T
    have h2 := Nat.mod_lt a hT
    rw [Nat.mul_comm] at h1
    rw [Nat.succ_mul]
    omega
  · rw [hl, List.map_map]
    have := sumNats_floor_le 4294967295 ((h.rawSigners chain).map (·.power))
    rw [List.map_map] at this
    exact this

/-! ### The stored order -/

/-- `sortSigners` permutes its input and orders it by power descending, ties by address bytes
    ascending (equal power and equal address only for a repeated member). -/
theorem sorted_desc_tiebreak (l : List Signer) :
    (sortSigners l).Perm l ∧
    (sortSigners l).Pairwise (fun a b =>
      a.power > b.power ∨
      (a.power = b.power ∧ bytesLt (strBytes a.addr) (strBytes b.addr) = true) ∨
      (a.power = b.power ∧ a.addr = b.addr)) := by
  refine ⟨sortSigners_perm l, List.Pairwise.imp ?_ (sortSigners_sorted l)⟩
  intro a b hab
  have hn : ¬ signerLt b a = true := by rw [hab]; exact Bool.false_ne_true
  rw [signerLt_iff] at hn
  rcases Nat.lt_trichotomy a.power b.power with hlt | heq | hgt
  · exact absurd (.inl hlt) hn
  · right
    cases h1 : bytesLt (strBytes a.addr) (strBytes b.addr) with
    | true => exact .inl ⟨heq, rfl⟩
    | false =>
      cases h2 : bytesLt (strBytes b.addr) (strBytes a.addr) with
      | true => exact absurd (.inr ⟨heq.symm, h2⟩) hn
      | false => exact .inr ⟨heq, strBytes_inj (bytesLt_total h1 h2)⟩
  · exact .inl hgt

theorem sorted_strict (l : List Signer) (hn : (l.map (·.addr)).Nodup) :
    (sortSigners l).Pairwise (fun a b => signerLt a b = true) := by
  have hne : (sortSigners l).Pairwise (fun a b => a.addr ≠ b.addr) :=
    List.pairwise_map.mp (((sortSigners_perm l).map _).nodup_iff.mpr hn)
  refine ((sorted_desc_tiebreak l).2.and hne).imp ?_
  rintro a b ⟨h | h | ⟨_, h⟩, hab⟩
  · exact (signerLt_iff a b).mpr (.inl h)
  · exact (signerLt_iff a b).mpr (.inr h)
  · exact absurd h hab

/-! ### Nonces of stored signer sets -/

/-- A new signer set carries the nonce `latestSetNonce + 1` (which becomes the latest nonce), the
    current block height and the sorted current members.  With the invariant "stored nonces ≤
    latest" that nonce is strictly above every stored one, the new set is what `latestSignerSet`
    then returns, and the invariant is kept.  If moreover the new nonce fits `uint64`, no stored set
    is overwritten. -/
theorem nonce_strictly_increasing {h h' : Hub} {chain : String}
    (hok : h.createSignerSet chain = .ok h') :
    ∃ s, s ∈ (h'.chain chain).sets ∧
      s.nonce = (h.chain chain).latestSetNonce + 1 ∧
      (h'.chain chain).latestSetNonce = s.nonce ∧
      s.height = h.height ∧
      (∃ cur, h.currentSigners chain = .ok cur ∧ s.signers = sortSigners cur) ∧
      (SetsInv (h.chain chain) →
        (∀ s' ∈ (h.chain chain).sets, s'.nonce < s.nonce) ∧
        h'.latestSignerSet chain = some s ∧
        SetsInv (h'.chain chain) ∧
        (s.nonce < 2 ^ 64 → (h'.chain chain).sets.Perm (s :: (h.chain chain).sets))) := by
  have hinv := (createSignerSet_keysFrame hok chain).setsInv
  obtain ⟨cur, hcur, e⟩ := createSignerSet_ok hok
  subst e
  rw [chain_setChain] at hinv ⊢
  refine ⟨_, mem_insertByKey _ _ _, rfl, rfl, rfl, ⟨cur, hcur, rfl⟩, ?_⟩
  intro hi
  have hlt : ∀ s' ∈ (h.chain chain).sets, s'.nonce < (h.chain chain).latestSetNonce + 1 :=
    fun s' hs' => Nat.lt_succ_of_le (hi s' hs')
  refine ⟨hlt, ?_, hinv hi, ?_⟩
  · unfold Hub.latestSignerSet
    rw [chain_setChain]
    refine find?_unique (mem_insertByKey _ _ _) (by simp) ?_
    intro y hy hp
    rcases mem_insertByKey_cases setKey hy with e | hm
    · exact e
    · have h1 : y.nonce = (h.chain chain).latestSetNonce + 1 := by simpa using hp
      have := hlt y hm
      omega
  · intro hb
    refine insertByKey_perm setKey fun y hy hk => ?_
    have := hlt y hy
    have : y.nonce = (h.chain chain).latestSetNonce + 1 :=
      be8_inj (by simp only at hb; omega) hb hk
    omega

theorem sets_inv_createSignerSet {h h' : Hub} {chain : String}
    (hok : h.createSignerSet chain = .ok h') (hi : SetsInv (h.chain chain)) :
    SetsInv (h'.chain chain) := (createSignerSet_keysFrame hok chain).setsInv hi

theorem sets_inv_pruneSignerSets (h : Hub) (chain : String) (hi : SetsInv (h.chain chain)) :
    SetsInv ((h.pruneSignerSets chain).chain chain) := (pruneSignerSets_keysFrame h chain chain).setsInv hi

theorem sets_inv_reachable (ops : List Op) (chain : String) : SetsInv ((runOps ops).chain chain) :=
  setsInv_reachable ops chain

/-! ### After begin block's `createSignerSetTxs` the latest set is fresh -/

theorem powerDiff_sorted_zero (cur : List Signer) (hn : (cur.map (·.addr)).Nodup) :
    powerDiffNum cur (sortSigners cur) = 0 :=
  powerDiffNum_perm_zero (sortSigners_perm cur) hn

/-- After `createSignerSetTxs` succeeded there is a latest stored signer set, and it is within 5 %
    (`20 · diff ≤ 2^32 − 1`) of the current members — which are the same before and after the call:
    either the set was created just now from the current members, or the existing latest set was
    within the bound.  (`SetsInv` and distinct member addresses hold in reachable states, see
    `fresh_after_begin_block_reachable`.) -/
theorem fresh_after_begin_block {h h' : Hub} {chain : String}
    (hok : h.createSignerSetTxs chain = .ok h') (hinv : SetsInv (h.chain chain)) :
    ∃ cur, h.currentSigners chain = .ok cur ∧ h'.currentSigners chain = .ok cur ∧
      ((cur.map (·.addr)).Nodup →
        ∃ s, h'.latestSignerSet chain = some s ∧ 20 * powerDiffNum cur s.signers ≤ maxU32) := by
  have created : ∀ {h' : Hub}, h.createSignerSet chain = .ok h' →
      ∃ cur, h.currentSigners chain = .ok cur ∧ h'.currentSigners chain = .ok cur ∧
        ((cur.map (·.addr)).Nodup →
          ∃ s, h'.latestSignerSet chain = some s ∧ 20 * powerDiffNum cur s.signers ≤ maxU32) := by
    intro h' hc
    obtain ⟨s, _, _, _, _, ⟨cur, hcur, hsig⟩, hrest⟩ := nonce_strictly_increasing hc
    obtain ⟨_, hlatest, _, _⟩ := hrest hinv
    refine ⟨cur, hcur, ?_, fun hn => ⟨s, hlatest, ?_⟩⟩
    · rw [← hcur]
      obtain ⟨cur', _, e⟩ := createSignerSet_ok hc
      subst e
      exact currentSigners_congr rfl (by rw [chain_setChain])
    · rw [hsig, powerDiff_sorted_zero cur hn]; exact Nat.zero_le _
  rcases createSignerSetTxs_ok hok with ⟨_, hc⟩ | ⟨latest, cur, hl, hcur, ⟨_, hc⟩ | ⟨hle, e⟩⟩
  · exact created hc
  · exact created hc
  · subst e
    exact ⟨cur, hcur, hcur, fun _ => ⟨latest, hl, hle⟩⟩

theorem fresh_after_begin_block_reachable (ops : List Op) {h' : Hub} {chain : String}
    (hs : ((runOps ops).staking.map (·.addr)).Nodup)
    (hok : (runOps ops).createSignerSetTxs chain = .ok h') :
    ∃ cur s, h'.currentSigners chain = .ok cur ∧ h'.latestSignerSet chain = some s ∧
      20 * powerDiffNum cur s.signers ≤ maxU32 := by
  obtain ⟨cur, hcur, hcur', hrest⟩ := fresh_after_begin_block hok (setsInv_reachable ops chain)
  obtain ⟨s, h1, h2⟩ := hrest (currentSigners_addr_nodup (regInv_reachable ops chain) hs hcur)
  exact ⟨cur, s, hcur', h1, h2⟩

/-! ### Bridge lemmas -/

theorem fact_signerset_normalise : Generated.signerset_normalise =
    "sdk.NewUint(externalSigners[i].Power).MulUint64(math.MaxUint32).QuoUint64(totalPower).Uint64()" := rfl
theorem fact_signerset_member_cond : Generated.signerset_member_cond =
    "extAddr.Hex() != \"0x0000000000000000000000000000000000000000\"" := rfl
theorem fact_signerset_source : Generated.signerset_source =
    "k.StakingKeeper.GetBondedValidatorsByPower(ctx)" := rfl
theorem fact_signer_sort_body : Generated.signer_sort_body =
    "{ sort.Slice(b, func(i, j int) bool { if b[i].Power == b[j].Power { return EthereumAddrLessThan(b[i].ExternalAddress, b[j].ExternalAddress) } return b[i].Power > b[j].Power }) }" := rfl
theorem fact_powerdiff_return : Generated.powerdiff_return =
    "math.Abs(delta / float64(math.MaxUint32))" := rfl
theorem fact_new_signerset_sorts : Generated.new_signerset_sorts = "true" := rfl
theorem fact_signerset_should_create : Generated.signerset_should_create =
    "(lastUnbondingHeight == blockHeight) || (powerDiff > 0.05)" := rfl
theorem fact_signerset_nil_cond : Generated.signerset_nil_cond = "latestSignerSetTx == nil" := rfl
theorem fact_prune_conds : Generated.prune_conds =
    "lastObserved != nil && !tooEarly | set.Nonce < lastObserved.Nonce && set.Height < earliestToPrune" := rfl

/-! ### Non-vacuity -/

def exHub : Hub :=
  { chains := ["eth"], height := 7,
    staking := [⟨"aa", 30, true⟩, ⟨"bb", 10, true⟩, ⟨"cc", 50, false⟩, ⟨"dd", 5, true⟩],
    cs := [("eth", { valExt := [("aa", "0xA1"), ("bb", "0xB1"), ("cc", "0xC1")] })] }

/-- Bonded validators with a registered address, in power order, normalised to 2^32 − 1. -/
example : (match exHub.currentSigners "eth" with
    | .ok l => l == [⟨3221225471, "0xA1"⟩, ⟨1073741823, "0xB1"⟩]
    | _ => false) = true := by decide +kernel

/-- The first begin-block creates set 1 from them; a second call changes nothing. -/
example : (match exHub.createSignerSetTxs "eth" with
    | .ok h' =>
      (match h'.latestSignerSet "eth" with
        | some s => s.nonce == 1 && s.height == 7 && s.signers == [⟨3221225471, "0xA1"⟩, ⟨1073741823, "0xB1"⟩]
        | none => false) &&
      (match h'.createSignerSetTxs "eth" with
        | .ok h'' => (h''.chain "eth").latestSetNonce == 1 && (h''.chain "eth").sets.length == 1
        | _ => false)
    | _ => false) = true := by decide +kernel

/-- Ties are broken by address bytes. -/
example : (sortSigners [⟨5, "0xB"⟩, ⟨7, "0xC"⟩, ⟨5, "0xA"⟩] ==
    [⟨7, "0xC"⟩, ⟨5, "0xA"⟩, ⟨5, "0xB"⟩]) = true := by
  decide +kernel

end Mhub2.C09
