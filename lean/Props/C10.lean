/- C10 — Batches are well formed. -/
import Mhub2.Generated.Facts
import Lemmas.Pool
namespace Mhub2.C10
open Mhub2

theorem batch_nonempty_bounded {h h' : Hub} {chain tok : String} {maxN : Nat} {b : Batch}
    (hb : h.buildBatch chain tok maxN = (h', some b)) : b.txs ≠ [] ∧ b.txs.length ≤ maxN := by
  obtain ⟨hne, htx, _⟩ := buildBatch_some hb
  rw [htx]
  exact ⟨hne, by unfold selectForBatch; exact List.length_take_le _ _⟩

theorem batch_none_noop {h h' : Hub} {chain tok : String} {maxN : Nat}
    (hb : h.buildBatch chain tok maxN = (h', none)) : h' = h :=
  (buildBatch_none hb).1

theorem batch_uniform {h h' : Hub} {chain tok : String} {maxN : Nat} {b : Batch}
    (hb : h.buildBatch chain tok maxN = (h', some b)) :
    b.extToken = tok ∧ ∀ t ∈ b.txs, t.extToken = tok ∧ t ∈ (h.chain chain).pool := by
  obtain ⟨_, htx, htok, _⟩ := buildBatch_some hb
  refine ⟨htok, ?_⟩
  intro t ht
  rw [htx] at ht
  exact ⟨(mem_selectForBatch ht).2, (mem_selectForBatch ht).1⟩

theorem batch_takes_from_pool {h h' : Hub} {chain tok : String} {maxN : Nat} {b : Batch}
    (hb : h.buildBatch chain tok maxN = (h', some b))
    (hd : PoolKeysDistinct (h.chain chain).pool) :
    (h'.chain chain).pool = (h.chain chain).pool.filter fun u => decide (u ∉ b.txs) := by
  obtain ⟨_, htx, _, _, _, hpool, _⟩ := buildBatch_some hb
  rw [hpool, htx]
  exact foldl_eraseByKey_eq_filter_mem poolKey _ _ hd (fun t ht => (mem_selectForBatch ht).1)

theorem batch_takes_from_pool_mem {h h' : Hub} {chain tok : String} {maxN : Nat} {b : Batch}
    (hb : h.buildBatch chain tok maxN = (h', some b))
    (hd : PoolKeysDistinct (h.chain chain).pool) (u : Ste) :
    u ∈ (h'.chain chain).pool ↔ u ∈ (h.chain chain).pool ∧ u ∉ b.txs := by
  rw [batch_takes_from_pool hb hd, List.mem_filter]
  simp

/-! ### The batch holds the best-paying transfers of its token -/

theorem insert_preserves_sorted {pool : List Ste} (x : Ste) (h : PoolSorted pool) :
    PoolSorted (insertByKey poolKey x pool) := insertByKey_sorted poolKey h

theorem erase_preserves_sorted {pool : List Ste} (k : Bytes) (h : PoolSorted pool) :
    PoolSorted (eraseByKey poolKey k pool) := eraseByKey_sorted poolKey h

theorem build_preserves_sorted {h h' : Hub} {chain tok : String} {maxN : Nat} {ob : Option Batch}
    (hb : h.buildBatch chain tok maxN = (h', ob)) (hs : PoolSorted (h.chain chain).pool) :
    PoolSorted (h'.chain chain).pool := by
  cases ob with
  | none => rw [(buildBatch_none hb).1]; exact hs
  | some b =>
    rw [batch_takes_from_pool hb hs.keysDistinct]
    exact List.Pairwise.filter _ hs

/-- Fixed-width big-endian bytes are ordered like the numbers (the fact behind fee ordering). -/
theorem be_order {w n m : Nat} (hn : n < 256 ^ w) (hm : m < 256 ^ w) :
    bytesLt (beBytes w n) (beBytes w m) = true ↔ n < m := by
  rw [bytesLt_beBytes w n m hn hm]; simp

theorem same_token_key_order (tokBytes x y : Bytes) :
    bytesLt (tokBytes ++ x) (tokBytes ++ y) = bytesLt x y := bytesLt_append_left tokBytes x y

theorem fee_id_order {f f' i i' : Nat} (hf : f < 2 ^ 256) (hf' : f' < 2 ^ 256)
    (hi : i < 2 ^ 64) (hi' : i' < 2 ^ 64) :
    bytesLt (fill32 f ++ be8 i) (fill32 f' ++ be8 i') = true ↔ f < f' ∨ (f = f' ∧ i < i') :=
  bytesLt_fee_id hf hf' hi hi'

/-- With the pool in store order, fees in `[0, 2^256)` and ids below `2^64`: every transfer in the
    batch beats every transfer of the same token left in the pool — higher fee, or equal fee and
    higher id. -/
theorem batch_top_fees {h h' : Hub} {chain tok : String} {maxN : Nat} {b : Batch}
    (hb : h.buildBatch chain tok maxN = (h', some b))
    (hs : PoolSorted (h.chain chain).pool)
    (hfee : ∀ v ∈ (h.chain chain).pool, 0 ≤ v.fee ∧ v.fee < 2 ^ 256)
    (hid : ∀ v ∈ (h.chain chain).pool, v.id < 2 ^ 64)
    {t u : Ste} (ht : t ∈ b.txs) (hu : u ∈ (h.chain chain).pool) (hutok : u.extToken = tok)
    (hun : u ∉ b.txs) :
    u.fee < t.fee ∨ (u.fee = t.fee ∧ u.id < t.id) := by
  obtain ⟨_, htx, _⟩ := buildBatch_some hb
  rw [htx] at ht hun
  obtain ⟨htp, httok⟩ := mem_selectForBatch ht
  have hlt := selectForBatch_lt hs ht hu hutok hun
  exact (poolKey_lt_iff (by rw [hutok, httok]) (hfee u hu) (hfee t htp) (hid u hu) (hid t htp)).mp hlt

theorem batch_not_full_takes_all {h h' : Hub} {chain tok : String} {maxN : Nat} {b : Batch}
    (hb : h.buildBatch chain tok maxN = (h', some b)) (hlen : b.txs.length < maxN)
    {u : Ste} (hu : u ∈ (h.chain chain).pool) (hutok : u.extToken = tok) : u ∈ b.txs := by
  obtain ⟨_, htx, _⟩ := buildBatch_some hb
  rw [htx] at hlen ⊢
  exact selectForBatch_all hlen hu hutok

/-- Batch nonces are consecutive per chain. -/
theorem batch_nonce_gapfree {h h' : Hub} {chain tok : String} {maxN : Nat} {b : Batch}
    (hb : h.buildBatch chain tok maxN = (h', some b)) :
    b.nonce = (h.chain chain).lastBatchNonce + 1 ∧ (h'.chain chain).lastBatchNonce = b.nonce := by
  obtain ⟨_, _, _, hn, _, _, hn', _⟩ := buildBatch_some hb
  exact ⟨hn, by rw [hn', hn]⟩

/-- The outgoing sequence is consecutive per chain. -/
theorem sequence_gapfree {h h' : Hub} {chain tok : String} {maxN : Nat} {b : Batch}
    (hb : h.buildBatch chain tok maxN = (h', some b)) :
    b.seq = (h.chain chain).outSeq + 1 ∧ (h'.chain chain).outSeq = b.seq := by
  obtain ⟨_, _, _, _, hs, _, _, hs', _⟩ := buildBatch_some hb
  exact ⟨hs, by rw [hs', hs]⟩

/-- A new signer set takes the next set nonce and the next outgoing sequence number; the
    batch nonce is not touched. -/
theorem signer_set_counters {h h' : Hub} {chain : String} (hs : h.createSignerSet chain = .ok h') :
    ∃ s ∈ (h'.chain chain).sets,
      s.seq = (h.chain chain).outSeq + 1 ∧ s.nonce = (h.chain chain).latestSetNonce + 1 ∧
      s.height = h.height ∧
      (h'.chain chain).outSeq = s.seq ∧ (h'.chain chain).latestSetNonce = s.nonce ∧
      (h'.chain chain).lastBatchNonce = (h.chain chain).lastBatchNonce ∧
      (h'.chain chain).pool = (h.chain chain).pool := by
  obtain ⟨cur, _, rfl⟩ := createSignerSet_ok hs
  rw [chain_setChain]
  exact ⟨_, mem_insertByKey _ _ _, rfl, rfl, rfl, rfl, rfl, rfl, rfl⟩

/-- Nothing but batch building and signer-set creation consumes a batch nonce or a
    sequence number: every operation of the model other than `reset` (which wipes the state),
    `beginBlock` (which runs `createSignerSetTxs` and `createBatches`) and `reqBatch` leaves
    `lastBatchNonce` and `outSeq` of every chain unchanged — whether it succeeds or fails.  The
    per-function version is `Hub.Quiet.of_moves` in Lemmas/Pool.lean: it covers every function whose
    writes Lemmas/Ops.lean records as `Moves` (`handle`, `batchExecuted`, `cancelSte`, `cancelMsg`,
    `sendToExternal`, `cancelBatch`, `refundExpired`, …). -/
theorem counters_only_by_batches_and_sets (h : Hub) (op : Op) (hop : op.mayAdvanceCounters = false)
    (c : String) :
    ((apply h op).1.chain c).lastBatchNonce = (h.chain c).lastBatchNonce ∧
    ((apply h op).1.chain c).outSeq = (h.chain c).outSeq :=
  ⟨(quiet_apply h op hop c).1, (quiet_apply h op hop c).2.1⟩

/-- The hypothesis `PoolSorted` of `batch_top_fees` (and of the C12 theorems) holds in every state
    reachable from genesis: the pool is only ever changed by `insertByKey poolKey` / `eraseByKey`. -/
theorem reachable_pool_sorted (ops : List Op) (c : String) : PoolSorted ((runOps ops).chain c).pool :=
  (runOps_inv ops c).1

/-- Globally: in every state reachable from genesis, every stored batch of every chain is
    non-empty, has at most 100 transfers, and all its transfers are of the batch's token (batches are
    only ever stored by `buildBatch … 100` and otherwise only deleted). -/
theorem reachable_batches_wf (ops : List Op) (c : String) :
    ∀ b ∈ ((runOps ops).chain c).batches,
      b.txs ≠ [] ∧ b.txs.length ≤ 100 ∧ ∀ t ∈ b.txs, t.extToken = b.extToken :=
  (runOps_inv ops c).2.2

/-- … and no transfer id, in the pool or in a stored batch, is ahead of the id counter or names two
    different transfers (so a transfer sits in the pool or in batches under one id only). -/
theorem reachable_ids_wf (ops : List Op) (c : String) :
    (∀ u, ((runOps ops).chain c).Has u → u.id ≤ ((runOps ops).chain c).lastSteId) ∧
    (∀ u v, ((runOps ops).chain c).Has u → ((runOps ops).chain c).Has v → u.id = v.id → u = v) :=
  (runOps_inv ops c).2.1

/-- `requestBatch` is `buildBatch` for the token registered under `denom` with the maximal size
    100, so every statement above applies to it. -/
theorem request_batch_is_build {h h' : Hub} {chain denom : String} {ob : Option Batch}
    (hr : h.requestBatch chain denom = .ok (h', ob)) :
    ∃ t, h.tokenByDenom chain denom = some t ∧ h.hasChain chain = true ∧
      h.buildBatch chain t.extId 100 = (h', ob) := by
  obtain ⟨hch, t, ht, hb⟩ := requestBatch_ok hr
  exact ⟨t, ht, hch, hb⟩

/-! ### `createBatches` visits the pool's tokens once each, in ascending byte order -/

theorem create_batches_sorted_tokens (h : Hub) (chain : String) :
    (h.createBatches chain =
      if h.height % 2 == 0 then
        (batchTokenIds (h.chain chain).pool).foldl (fun h id => (h.buildBatch chain id 100).1) h
      else h) ∧
    (batchTokenIds (h.chain chain).pool).Nodup ∧
    (batchTokenIds (h.chain chain).pool).Pairwise
      (fun a b => bytesLt (strBytes a) (strBytes b) = true) ∧
    ∀ id, id ∈ batchTokenIds (h.chain chain).pool ↔ ∃ s ∈ (h.chain chain).pool, s.extToken = id := by
  have hnd : (batchTokenIds (h.chain chain).pool).Nodup :=
    isort_nodup _ (nodup_eraseDups _)
  refine ⟨createBatches_eq h chain, hnd, ?_, ?_⟩
  · have hs := isort_sorted (fun a b : String => bytesLt (strBytes a) (strBytes b))
      (fun a b => bytesLt_asymm) (fun a b c => bytesLt_trans)
      ((h.chain chain).pool.map (·.extToken)).eraseDups
    have hboth := List.Pairwise.and hs (List.nodup_iff_pairwise_ne.mp hnd)
    refine List.Pairwise.imp ?_ hboth
    intro a b hab
    cases hlt : bytesLt (strBytes a) (strBytes b) with
    | true => rfl
    | false => exact absurd (strBytes_inj (bytesLt_total hlt hab.1)) hab.2
  · intro id
    unfold batchTokenIds
    rw [mem_isort, List.mem_eraseDups, List.mem_map]

/-! ### Bridge lemmas: the source expressions the model was written from -/

theorem fact_batch_tx_size : Generated.batch_tx_size = "100" := rfl
theorem fact_build_batch_stop : Generated.build_batch_stop = "len(selectedStes) == maxElements" := rfl
theorem fact_build_batch_nonce : Generated.build_batch_nonce =
    "k.incrementLastOutgoingBatchNonce(ctx, chainId)" := rfl
theorem fact_build_batch_txs : Generated.build_batch_txs = "selectedStes" := rfl
theorem fact_build_batch_token : Generated.build_batch_token = "externalTokenId" := rfl
theorem fact_create_batch_period : Generated.create_batch_period = "ctx.BlockHeight()%2 == 0" := rfl
theorem fact_create_batch_call : Generated.create_batch_call = "k.BuildBatchTx(ctx, chainId, id, 100)" := rfl
theorem fact_create_batch_sorts : Generated.create_batch_sorts = "true" := rfl
theorem fact_pool_by_coin_prefix : Generated.pool_by_coin_prefix =
    "prefix.NewStore(ctx.KVStore(k.storeKey), bytes.Join([][]byte{{types.SendToExternalKey}, chainId.Bytes(), []byte(externalTokenId)}, []byte{}))" := rfl
theorem fact_pool_by_coin_reverse : Generated.pool_by_coin_reverse = "true" := rfl
theorem fact_key_MakeSendToExternalKey : Generated.key_MakeSendToExternalKey =
    "bytes.Join([][]byte{{SendToExternalKey}, chainId.Bytes(), []byte(fee.ExternalTokenId), fee.Amount.BigInt().FillBytes(amount), sdk.Uint64ToBigEndian(id)}, []byte{})" := rfl
theorem fact_key_MakeBatchTxKey : Generated.key_MakeBatchTxKey =
    "bytes.Join([][]byte{{BatchTxPrefixByte}, chainId.Bytes(), []byte(externalTokenId), sdk.Uint64ToBigEndian(nonce)}, []byte{})" := rfl


/-! ### Non-vacuity -/

def exSte (id : Nat) (fee : Int) : Ste :=
  { id := id, sender := "a", recipient := "r", tokenId := 1, extToken := "T", amount := 5, fee := fee,
    comm := 0, chain := "e", txHash := "x", createdAt := 0, refundAddr := "a", refundChain := "hub" }

/-- Three transfers of token "T" in store order: (fee 1, id 2), (fee 3, id 1), (fee 3, id 3). -/
def exHub : Hub :=
  { chains := ["e"], cs := [("e", { pool := [exSte 2 1, exSte 1 3, exSte 3 3], lastSteId := 3 })],
    height := 2 }

theorem exHub_pool : (exHub.chain "e").pool = [exSte 2 1, exSte 1 3, exSte 3 3] := by rfl

theorem exHub_sorted : PoolSorted (exHub.chain "e").pool := by
  rw [exHub_pool]
  simp only [PoolSorted, KeySorted, List.pairwise_cons, List.mem_cons, List.not_mem_nil, or_false,
    forall_eq_or_imp, forall_eq, false_imp_iff, implies_true, List.Pairwise.nil, and_true]
  refine ⟨⟨?_, ?_⟩, ?_⟩ <;>
  · rw [poolKey_assoc, poolKey_assoc]
    show bytesLt (strBytes "T" ++ _) (strBytes "T" ++ _) = true
    rw [bytesLt_append_left]
    decide

theorem exHub_select : selectForBatch (exHub.chain "e").pool "T" 2 = [exSte 3 3, exSte 1 3] := by
  rw [exHub_pool]
  unfold selectForBatch
  have : List.filter (fun s => isPrefix (strBytes "T") (poolKey s) && s.extToken == "T")
      [exSte 2 1, exSte 1 3, exSte 3 3] = [exSte 2 1, exSte 1 3, exSte 3 3] := by
    apply List.filter_eq_self.mpr
    intro a ha
    simp only [List.mem_cons, List.not_mem_nil, or_false] at ha
    rcases ha with rfl | rfl | rfl <;> exact batchFilter_of_token rfl
  rw [this]; rfl

/-- All hypotheses of the C10 theorems hold for `exHub`: a batch of size 2 is built, it holds the two
    fee-3 transfers (higher id first) and leaves the fee-1 transfer. -/
example : ∃ h' b, exHub.buildBatch "e" "T" 2 = (h', some b) ∧ b.txs = [exSte 3 3, exSte 1 3] ∧
    b.nonce = 1 ∧ b.seq = 1 ∧
    PoolSorted (exHub.chain "e").pool ∧
    (∀ v ∈ (exHub.chain "e").pool, 0 ≤ v.fee ∧ v.fee < 2 ^ 256) ∧
    (∀ v ∈ (exHub.chain "e").pool, v.id < 2 ^ 64) ∧
    (h'.chain "e").pool = [exSte 2 1] := by
  cases hb : exHub.buildBatch "e" "T" 2 with
  | mk h' ob =>
    cases ob with
    | none =>
      have := (buildBatch_none hb).2
      rw [exHub_select] at this; cases this
    | some b =>
      obtain ⟨_, htx, _, hn, hs, _⟩ := buildBatch_some hb
      refine ⟨h', b, rfl, by rw [htx, exHub_select], hn, hs, exHub_sorted, by decide, by decide, ?_⟩
      rw [batch_takes_from_pool hb exHub_sorted.keysDistinct, htx, exHub_select, exHub_pool]
      rfl

/-- With room for 5 the batch is not full and takes everything of the token. -/
example : ∃ h' b, exHub.buildBatch "e" "T" 5 = (h', some b) ∧ b.txs.length < 5 := by
  cases hb : exHub.buildBatch "e" "T" 5 with
  | mk h' ob =>
    have hlen := selectForBatch_length (exHub.chain "e").pool "T" 5
    have hmem : exSte 2 1 ∈ (exHub.chain "e").pool.filter (batchFilter "T") :=
      List.mem_filter.mpr ⟨by rw [exHub_pool]; simp, batchFilter_of_token rfl⟩
    have hle := List.length_filter_le (batchFilter "T") (exHub.chain "e").pool
    rw [exHub_pool] at hle
    simp only [List.length_cons, List.length_nil] at hle
    cases ob with
    | none =>
      have h0 := (buildBatch_none hb).2
      rw [h0] at hlen
      have := List.length_pos_of_mem hmem
      rw [exHub_pool] at this hlen
      simp only [List.length_nil] at hlen
      omega
    | some b =>
      obtain ⟨_, htx, _⟩ := buildBatch_some hb
      refine ⟨h', b, rfl, ?_⟩
      rw [htx, hlen, exHub_pool]; omega

/-- No batch for a token that is not in the pool: nothing changes. -/
example : exHub.buildBatch "e" "U" 2 = (exHub, none) := by
  have hsel : selectForBatch (exHub.chain "e").pool "U" 2 = [] := by
    refine List.eq_nil_iff_forall_not_mem.mpr fun t ht => ?_
    obtain ⟨hm, htok⟩ := mem_selectForBatch ht
    rw [exHub_pool] at hm
    simp only [List.mem_cons, List.not_mem_nil, or_false] at hm
    rcases hm with rfl | rfl | rfl <;> exact absurd htok (by decide)
  rw [buildBatch_eq, if_pos (List.isEmpty_iff.mpr hsel)]

example : (match ({ chains := ["e"], staking := [] } : Hub).createSignerSet "e" with
    | .ok h' => (h'.chain "e").outSeq == 1 && (h'.chain "e").latestSetNonce == 1
    | _ => false) = true := by decide

end Mhub2.C10
