/- C12 — Cancellation and expiry refund exactly, once, to the right party. -/
import Mhub2.Generated.Facts
import Lemmas.Pool
namespace Mhub2.C12
open Mhub2

theorem cancelMsg_ok {h h' : Hub} {sender chain : String} {id : Nat}
    (hc : h.cancelMsg sender chain id = .ok h') :
    id ≠ 0 ∧ h.hasChain chain = true ∧ h.cancelSte chain id sender = (h', none) :=
  Mhub2.cancelMsg_ok hc

/-- A cancellation only succeeds for an entry that is still in the pool (unbatched) and only
    for its sender. -/
theorem cancel_authorised {h h' : Hub} {sender chain : String} {id : Nat}
    (hc : h.cancelMsg sender chain id = .ok h') :
    ∃ s ∈ (h.chain chain).pool, s.id = id ∧ s.sender = sender := by
  obtain ⟨s, hl, hsnd⟩ := cancelSte_found (cancelMsg_ok hc).2.2
  exact ⟨s, (cancelLookup_some hl).1, (cancelLookup_some hl).2, hsnd.symm⟩


/-- An id that is not in the pool — for instance because its transfer has been moved into a batch —
    cannot be cancelled. -/
theorem cancel_batched_fails {h : Hub} {sender chain : String} {id : Nat}
    (hno : ∀ s ∈ (h.chain chain).pool, s.id ≠ id) :
    ∃ msg, h.cancelMsg sender chain id = .error (.fail msg) := by
  have hnone : h.cancelLookup chain id = none := by
    cases hl : h.cancelLookup chain id with
    | none => rfl
    | some t => exact absurd (cancelLookup_some hl).2 (hno t (cancelLookup_some hl).1)
  unfold Hub.cancelMsg failM
  by_cases h0 : (id == 0) = true
  · rw [if_pos h0]; exact ⟨_, rfl⟩
  rw [if_neg h0]
  by_cases h1 : (!h.hasChain chain) = true
  · rw [if_pos h1]; exact ⟨_, rfl⟩
  rw [if_neg h1, cancelSte_eq, hnone]
  exact ⟨_, rfl⟩

/-! ### The entry is removed; a second cancellation fails -/

theorem cancel_lookup_unique {h : Hub} {chain : String} {s : Ste}
    (hids : PoolIdsDistinct (h.chain chain).pool) (hs : s ∈ (h.chain chain).pool) :
    h.cancelLookup chain s.id = some s := by
  cases hl : h.cancelLookup chain s.id with
  | none => exact absurd rfl (cancelLookup_none hl s hs)
  | some t =>
    obtain ⟨ht, hid⟩ := cancelLookup_some hl
    rw [hids t ht s hs hid]

/-- After a successful `cancelSte` (the message path and the expiry path both end in it) no entry with
    the cancelled entry's store key is left in the pool of `chain` (the pool being in store order,
    hence with distinct keys). -/
theorem cancelSte_removes {h h' : Hub} {sender chain : String} {id : Nat}
    (hs : h.cancelSte chain id sender = (h', none)) (hsorted : PoolSorted (h.chain chain).pool) :
    ∃ s, h.cancelLookup chain id = some s ∧ ∀ u ∈ (h'.chain chain).pool, poolKey u ≠ poolKey s := by
  obtain ⟨s, hl, hcases⟩ := cancelSte_none_pool hs
  refine ⟨s, hl, ?_⟩
  intro u hu
  rcases hcases with ⟨hp, _⟩ | ⟨new, _, hp, _⟩
  · rw [hp] at hu
    exact key_ne_of_mem_eraseByKey poolKey (KeySorted.distinct poolKey hsorted) hu
  · rw [hp] at hu
    exact key_ne_of_mem_eraseByKey poolKey
      (KeySorted.distinct poolKey (insertByKey_sorted poolKey hsorted)) hu

theorem cancel_removes {h h' : Hub} {sender chain : String} {id : Nat}
    (hc : h.cancelMsg sender chain id = .ok h') (hsorted : PoolSorted (h.chain chain).pool) :
    ∃ s, h.cancelLookup chain id = some s ∧ ∀ u ∈ (h'.chain chain).pool, poolKey u ≠ poolKey s :=
  cancelSte_removes (cancelMsg_ok hc).2.2 hsorted

/-- When the refund goes to a hub account (or stays in the module) `cancelSte` only deletes: the pool
    of `chain` loses the entry and every other chain state is untouched. -/
theorem cancelSte_pool_hub {h h' : Hub} {sender chain : String} {id : Nat} {s : Ste}
    (hs : h.cancelSte chain id sender = (h', none)) (hl : h.cancelLookup chain id = some s)
    (hr : s.refundChain = "hub" ∨ s.refundChain = "") :
    (h'.chain chain).pool = eraseByKey poolKey (poolKey s) (h.chain chain).pool ∧
    (h'.chain chain).lastSteId = (h.chain chain).lastSteId ∧
    ∀ c', chain ≠ c' → h'.chain c' = h.chain c' := by
  rcases cancelSte_none hs hl with ⟨_, rfl⟩ | ⟨h1, h2, _⟩
  · exact ⟨by rw [cancelFinish_pool, bankWrite_chain], by rw [cancelFinish_lastSteId, bankWrite_chain],
      fun c' hne => by rw [cancelFinish_chain_other _ _ hne, bankWrite_chain]⟩
  · rcases hr with hr | hr
    · exact absurd hr h2
    · exact absurd hr h1

theorem cancel_pool_hub {h h' : Hub} {sender chain : String} {id : Nat} {s : Ste}
    (hc : h.cancelMsg sender chain id = .ok h') (hl : h.cancelLookup chain id = some s)
    (hr : s.refundChain = "hub" ∨ s.refundChain = "") :
    (h'.chain chain).pool = eraseByKey poolKey (poolKey s) (h.chain chain).pool ∧
    (h'.chain chain).lastSteId = (h.chain chain).lastSteId ∧
    ∀ c', chain ≠ c' → h'.chain c' = h.chain c' :=
  cancelSte_pool_hub (cancelMsg_ok hc).2.2 hl hr

/-- With unique ids (and the id counter not behind the cancelled id, so that a refund entry
    created on the same chain gets a different id) no entry with that id is left. -/
theorem cancelSte_removes_id {h h' : Hub} {sender chain : String} {id : Nat}
    (hs : h.cancelSte chain id sender = (h', none)) (hsorted : PoolSorted (h.chain chain).pool)
    (hids : PoolIdsDistinct (h.chain chain).pool) (hfresh : id ≤ (h.chain chain).lastSteId) :
    ∀ u ∈ (h'.chain chain).pool, u.id ≠ id := by
  obtain ⟨s, hl, hk⟩ := cancelSte_removes hs hsorted
  obtain ⟨hsmem, hsid⟩ := cancelLookup_some hl
  intro u hu huid
  have hup : u ∈ (h.chain chain).pool := by
    obtain ⟨_, _, hcases⟩ := cancelSte_none_pool hs
    rcases hcases with ⟨hp, _⟩ | ⟨new, hnew, hp, _⟩
    · rw [hp] at hu; exact mem_of_mem_eraseByKey poolKey hu
    · rw [hp] at hu
      rcases mem_insertByKey_cases poolKey (mem_of_mem_eraseByKey poolKey hu) with e | hup
      · rw [e, hnew] at huid; omega
      · exact hup
  exact hk u hu (by rw [hids u hup s hsmem (huid.trans hsid.symm)])

theorem cancel_removes_id {h h' : Hub} {sender chain : String} {id : Nat}
    (hc : h.cancelMsg sender chain id = .ok h') (hsorted : PoolSorted (h.chain chain).pool)
    (hids : PoolIdsDistinct (h.chain chain).pool) (hfresh : id ≤ (h.chain chain).lastSteId) :
    ∀ u ∈ (h'.chain chain).pool, u.id ≠ id :=
  cancelSte_removes_id (cancelMsg_ok hc).2.2 hsorted hids hfresh

/-- Hence a second cancellation of the same id fails, whoever asks. -/
theorem cancel_once {h h' : Hub} {sender chain : String} {id : Nat}
    (hc : h.cancelMsg sender chain id = .ok h') (hsorted : PoolSorted (h.chain chain).pool)
    (hids : PoolIdsDistinct (h.chain chain).pool) (hfresh : id ≤ (h.chain chain).lastSteId)
    (sender' : String) : ∃ msg, h'.cancelMsg sender' chain id = .error (.fail msg) :=
  cancel_batched_fails (cancel_removes_id hc hsorted hids hfresh)

/-! ### Refund to a hub account -/

theorem cancelFinish_refund (h : Hub) (acc denom : String) (v : Int) (chain : String) (s : Ste) :
    let h' := (h.bankWrite acc denom v).cancelFinish chain s
    h'.balance acc denom = h.balance acc denom + v ∧
    h'.supplyOf denom = h.supplyOf denom + v ∧
    (∀ a d, (acc, denom) ≠ (a, d) → h'.balance a d = h.balance a d) ∧
    (∀ d, denom ≠ d → h'.supplyOf d = h.supplyOf d) := by
  refine ⟨?_, ?_, fun a d hne => ?_, fun d hne => ?_⟩
  · exact (bankWrite_balance _ _ _ _ _ _).trans (by rw [if_pos rfl])
  · exact (bankWrite_supply _ _ _ _ _).trans (by rw [if_pos rfl])
  · exact (bankWrite_balance _ _ _ _ _ _).trans (by rw [if_neg hne, Int.add_zero])
  · exact (bankWrite_supply _ _ _ _ _).trans (by rw [if_neg hne, Int.add_zero])

/-- If the entry names `"hub"` as refund chain, the sender's balance of the token's hub denom and
    the supply of that denom grow by exactly `refundValue`; no other balance or supply moves.  (On
    the expiry path `sender` is the entry's own sender.) -/
theorem cancelSte_refund_to_hub_sender {h h' : Hub} {sender chain : String} {id : Nat} {s : Ste}
    (hs : h.cancelSte chain id sender = (h', none)) (hl : h.cancelLookup chain id = some s)
    (hr : s.refundChain = "hub") :
    let denom := h.denomOfTokenId s.tokenId
    h'.balance sender denom = h.balance sender denom + h.refundValue chain s ∧
    h'.supplyOf denom = h.supplyOf denom + h.refundValue chain s ∧
    (∀ acc d, (sender, denom) ≠ (acc, d) → h'.balance acc d = h.balance acc d) ∧
    (∀ d, denom ≠ d → h'.supplyOf d = h.supplyOf d) := by
  rcases cancelSte_none hs hl with ⟨_, he⟩ | ⟨_, h2, _⟩
  · rw [hr, if_neg (by decide)] at he
    subst he
    exact cancelFinish_refund _ _ _ _ _ _
  · exact absurd hr h2

theorem refund_to_hub_sender {h h' : Hub} {sender chain : String} {id : Nat} {s : Ste}
    (hc : h.cancelMsg sender chain id = .ok h') (hl : h.cancelLookup chain id = some s)
    (hr : s.refundChain = "hub") :
    let denom := h.denomOfTokenId s.tokenId
    h'.balance sender denom = h.balance sender denom + h.refundValue chain s ∧
    h'.supplyOf denom = h.supplyOf denom + h.refundValue chain s ∧
    (∀ acc d, (sender, denom) ≠ (acc, d) → h'.balance acc d = h.balance acc d) ∧
    (∀ d, denom ≠ d → h'.supplyOf d = h.supplyOf d) :=
  cancelSte_refund_to_hub_sender (cancelMsg_ok hc).2.2 hl hr

/-- Guard case: an entry with an *empty* refund chain (module-initiated transfers: commission and
    fee payouts) is "refunded" into the module account — nobody's balance but `moduleAcc`'s grows. -/
theorem cancelSte_refund_to_module {h h' : Hub} {sender chain : String} {id : Nat} {s : Ste}
    (hs : h.cancelSte chain id sender = (h', none)) (hl : h.cancelLookup chain id = some s)
    (hr : s.refundChain = "") :
    let denom := h.denomOfTokenId s.tokenId
    h'.balance moduleAcc denom = h.balance moduleAcc denom + h.refundValue chain s ∧
    h'.supplyOf denom = h.supplyOf denom + h.refundValue chain s ∧
    (∀ acc d, (moduleAcc, denom) ≠ (acc, d) → h'.balance acc d = h.balance acc d) := by
  rcases cancelSte_none hs hl with ⟨_, he⟩ | ⟨h1, _⟩
  · rw [if_pos hr] at he
    subst he
    obtain ⟨h1, h2, h3, _⟩ := cancelFinish_refund h moduleAcc _ (h.refundValue chain s) chain s
    exact ⟨h1, h2, h3⟩
  · exact absurd hr h1

/-! ### Refund to the chain the transfer came from -/

/-- A successful `cancelSte` of an entry that names another chain as refund chain: the pool of the
    refund chain holds the entry `createSte` writes for a transfer of the whole refund value from
    `TempAddress` to `refundAddr`. -/
theorem cancelSte_refund_to_origin_chain {h h' : Hub} {sender chain : String} {id : Nat} {s : Ste}
    (hs : h.cancelSte chain id sender = (h', none)) (hl : h.cancelLookup chain id = some s)
    (hr1 : s.refundChain ≠ "") (hr2 : s.refundChain ≠ "hub")
    (hfresh : s.refundChain ≠ chain ∨
      (id ≤ (h.chain chain).lastSteId ∧ (h.chain chain).lastSteId + 1 < 2 ^ 64)) :
    0 < h.refundValue chain s ∧
    (∃ tok, h.tokenByDenom s.refundChain (h.denomOfTokenId s.tokenId) = some tok ∧
      h.newSte s.refundChain tempAddr s.refundAddr tok (h.refundValue chain s) 0 0 "#" "" ""
        ∈ (h'.chain s.refundChain).pool) ∧
    h'.balance tempAddr (h.denomOfTokenId s.tokenId) = h.balance tempAddr (h.denomOfTokenId s.tokenId) ∧
    h'.supplyOf (h.denomOfTokenId s.tokenId) = h.supplyOf (h.denomOfTokenId s.tokenId) := by
  rcases cancelSte_none hs hl with ⟨h1, _⟩ | ⟨_, _, h2, n, hcr, rfl⟩
  · rcases h1 with h1 | h1
    · exact absurd h1 hr1
    · exact absurd h1 hr2
  · obtain ⟨tok, htok, hpool, _, hother, hburn⟩ := createSte_chains hcr
    -- the refund credit writes the bank only, so token table, clock and chain states are those of `h`
    have hfr := bankWrite_frame h tempAddr (h.denomOfTokenId s.tokenId) (h.refundValue chain s)
    have htok' : h.tokenByDenom s.refundChain (h.denomOfTokenId s.tokenId) = some tok := by
      rw [← htok, hfr]; rfl
    have hnew : (h.bankWrite tempAddr (h.denomOfTokenId s.tokenId) (h.refundValue chain s)).newSte s.refundChain
        tempAddr s.refundAddr tok (h.refundValue chain s) 0 0 "#" "" "" =
        h.newSte s.refundChain tempAddr s.refundAddr tok (h.refundValue chain s) 0 0 "#" "" "" := by
      rw [hfr]; rfl
    rw [hnew, bankWrite_chain] at hpool
    obtain ⟨hpos, _, hbal, hsup, _⟩ := burnFrom_ok hburn
    have hbal : h2.balance tempAddr (h.denomOfTokenId s.tokenId) = _ := hbal
    have hsup : h2.supplyOf (h.denomOfTokenId s.tokenId) = _ := hsup
    rw [bankWrite_balance, if_pos rfl] at hbal
    rw [bankWrite_supply, if_pos rfl] at hsup
    refine ⟨by omega, ⟨tok, htok', ?_⟩, ?_, ?_⟩
    · -- the new entry survives the final deletion
      by_cases hsame : s.refundChain = chain
      · rcases hfresh with hne | ⟨hle, hlt⟩
        · exact absurd hsame hne
        · rw [hsame] at hpool ⊢
          rw [cancelFinish_pool, hpool]
          refine mem_eraseByKey_of_ne poolKey (mem_insertByKey _ _ _) fun hk => ?_
          have hsid := (cancelLookup_some hl).2
          have : (h.chain chain).lastSteId + 1 = s.id := poolKey_inj hk (Nat.lt_of_le_of_lt (Nat.le_refl _) hlt) (by omega)
          omega
      · rw [cancelFinish_chain_other _ _ (fun e => hsame e.symm), hpool]
        exact mem_insertByKey _ _ _
    · show h2.balance tempAddr (h.denomOfTokenId s.tokenId) = _
      omega
    · show h2.supplyOf (h.denomOfTokenId s.tokenId) = _
      omega

/-- If the entry names another chain as refund chain, a successful cancellation schedules a
    transfer on that chain: a new pool entry (next id of that chain) to `refundAddr`, with fee 0,
    commission 0 and the whole `refundValue` (converted to that chain's units) as amount.  The
    value passes through `TempAddress`, whose balance — like the supply — is unchanged overall.

    Side condition for the case `refundChain = chain` only: the new entry is inserted into the
    very pool the cancelled entry is then erased from by key, so its key must differ; this holds
    when the cancelled id is not ahead of the id counter and the counter does not wrap in 8 bytes. -/
theorem refund_to_origin_chain {h h' : Hub} {sender chain : String} {id : Nat} {s : Ste}
    (hc : h.cancelMsg sender chain id = .ok h') (hl : h.cancelLookup chain id = some s)
    (hr1 : s.refundChain ≠ "") (hr2 : s.refundChain ≠ "hub")
    (hfresh : s.refundChain ≠ chain ∨
      (id ≤ (h.chain chain).lastSteId ∧ (h.chain chain).lastSteId + 1 < 2 ^ 64)) :
    let denom := h.denomOfTokenId s.tokenId
    0 < h.refundValue chain s ∧
    (∃ tok, h.tokenByDenom s.refundChain denom = some tok ∧
      ∃ new ∈ (h'.chain s.refundChain).pool,
        new.id = (h.chain s.refundChain).lastSteId + 1 ∧
        new.sender = tempAddr ∧ new.recipient = s.refundAddr ∧
        new.tokenId = tok.id ∧ new.extToken = tok.extId ∧
        new.amount = h.toExternal s.refundChain tok.extId (h.refundValue chain s) ∧
        new.fee = 0 ∧ new.comm = 0 ∧ new.refundChain = "" ∧ new.refundAddr = "") ∧
    h'.balance tempAddr denom = h.balance tempAddr denom ∧
    h'.supplyOf denom = h.supplyOf denom := by
  obtain ⟨hpos, ⟨tok, htok, hmem⟩, hbal, hsup⟩ :=
    cancelSte_refund_to_origin_chain (cancelMsg_ok hc).2.2 hl hr1 hr2 hfresh
  exact ⟨hpos, ⟨tok, htok, _, hmem, rfl, rfl, rfl, rfl, rfl, rfl, toExternal_zero .., toExternal_zero .., rfl, rfl⟩,
    hbal, hsup⟩

/-! ### Arithmetic of the refund -/

/-- The refunded value is the stored amount, fee and commission converted back together; for an
    entry created by `sendToExternal` these are `toExt d` of the hub amounts (C11 `withdraw_debit`),
    so the theorems below describe exactly how the refund relates to what was taken. -/
theorem refund_value_formula {h : Hub} {chain : String} {s : Ste} {t : TokenInfo}
    (ht : h.tokenByExt chain s.extToken = some t) :
    h.refundValue chain s = fromExt t.dec (s.amount + s.fee + s.comm) := by
  simp [Hub.refundValue, Hub.fromExternal, ht]

/-- For tokens with at least 18 external decimals the refund is exactly what was taken. -/
theorem refund_exact_ge18 {d : Nat} (hd : 18 ≤ d) (a f c : Int) :
    fromExt d (toExt d a + toExt d f + toExt d c) = a + f + c := by
  rw [toExt_ge18 hd, toExt_ge18 hd, toExt_ge18 hd, ← Int.add_mul, ← Int.add_mul]
  by_cases h : d = 18
  · subst h
    rw [fromExt_le18 (Nat.le_refl _)]
    simp [pow10]
  · rw [fromExt_gt18 (by omega)]
    exact Int.mul_ediv_cancel _ (Int.ne_of_gt (pow10_pos _))

/-- For tokens with fewer than 18 external decimals each of the three stored amounts was
    truncated to a multiple of `10^(18-d)`; the refund is the sum of the truncated amounts. -/
theorem refund_bounds_lt18 {d : Nat} (hd : d < 18) (a f c : Int) :
    a + f + c - 3 * pow10 (18 - d) < fromExt d (toExt d a + toExt d f + toExt d c) ∧
    fromExt d (toExt d a + toExt d f + toExt d c) ≤ a + f + c := by
  rw [fromExt_le18 (Nat.le_of_lt hd), toExt_lt18 hd, toExt_lt18 hd, toExt_lt18 hd,
    Int.add_mul, Int.add_mul]
  have hq := pow10_pos (18 - d)
  obtain ⟨a1, a2⟩ := floor_bounds a hq
  obtain ⟨f1, f2⟩ := floor_bounds f hq
  obtain ⟨c1, c2⟩ := floor_bounds c hq
  rw [Int.add_mul, Int.one_mul] at a2 f2 c2
  constructor <;> omega

theorem refund_exact_lt18_of_dvd {d : Nat} (hd : d < 18) {a f c : Int}
    (ha : pow10 (18 - d) ∣ a) (hf : pow10 (18 - d) ∣ f) (hc : pow10 (18 - d) ∣ c) :
    fromExt d (toExt d a + toExt d f + toExt d c) = a + f + c := by
  rw [fromExt_le18 (Nat.le_of_lt hd), toExt_lt18 hd, toExt_lt18 hd, toExt_lt18 hd,
    Int.add_mul, Int.add_mul, Int.ediv_mul_cancel ha, Int.ediv_mul_cancel hf, Int.ediv_mul_cancel hc]

/-- The statement "the refund is exactly the amount taken" is false for `d < 18`: with 6 external
    decimals, 1.0000005 hub units are stored as 1000000 external units and refunded as 1.0. -/
theorem refund_not_exact_witness :
    fromExt 6 (toExt 6 1000000500000000000 + toExt 6 0 + toExt 6 0) = 1000000000000000000 ∧
    fromExt 6 (toExt 6 1000000500000000000 + toExt 6 0 + toExt 6 0) ≠ 1000000500000000000 + 0 + 0 := by
  decide

/-! ### Expiry -/

/-- The expiry test is strict: `createdAt·1000 + timeout < now·1000`. -/
theorem expired_iff (h : Hub) (s : Ste) :
    h.expired s = true ↔ s.createdAt * 1000 + h.params.outgoingTimeoutMs < h.time * 1000 := by
  simp [Hub.expired]

/-- `refundExpired` attempts a cancellation (`expiryStep`: `cancelSte` in the entry's own name,
    plain failures ignored) exactly for the entries of the pool snapshot that satisfy the expiry
    test, highest key first; entries that do not satisfy it are skipped. -/
theorem expiry_condition (h : Hub) (chain : String) :
    h.refundExpired chain =
      ((h.chain chain).pool.reverse.filter h.expired).foldlM (Hub.expiryStep chain) h := by
  rw [refundExpired_eq]
  exact foldlM_expiry_filter chain h _ h rfl rfl

/-- Each step of the expiry loop is `cancelSte` in the entry's own name: either it succeeds — then
    the `cancelSte_…` theorems above describe the refund (to the entry's sender on the hub, or as a
    new transfer on its refund chain) — or it fails plainly and no chain state, clock or parameter
    changed (see `expiry_failed_refund_witness` for what *does* change then). -/
theorem expiry_step_is_cancel {h h1 : Hub} {chain : String} {s : Ste}
    (hs : h.expiryStep chain s = .ok h1) :
    h.cancelSte chain s.id s.sender = (h1, none) ∨
    (∃ e, h.cancelSte chain s.id s.sender = (h1, some e)) ∧
      h1.cs = h.cs ∧ h1.time = h.time ∧ h1.params = h.params := by
  rcases expiryStep_ok hs with hc | ⟨e, hc⟩
  · exact Or.inl hc
  · exact Or.inr ⟨⟨e, hc⟩, cancelSte_some hc⟩

/-- Entries that are not expired survive the expiry pass.  Hypotheses: the pool is in store order,
    ids are unique and not ahead of the id counter, and the counter cannot wrap in 8 bytes during
    the pass (each refund routed to the same chain takes one new id). -/
theorem expiry_keeps_unexpired {h h' : Hub} {chain : String} {u : Ste}
    (hok : h.refundExpired chain = .ok h')
    (hsorted : PoolSorted (h.chain chain).pool) (hids : PoolIdsDistinct (h.chain chain).pool)
    (hbound : ∀ v ∈ (h.chain chain).pool, v.id ≤ (h.chain chain).lastSteId)
    (hroom : (h.chain chain).lastSteId + (h.chain chain).pool.length < 2 ^ 64)
    (hu : u ∈ (h.chain chain).pool)
    (hnexp : ¬ (u.createdAt * 1000 + h.params.outgoingTimeoutMs < h.time * 1000)) :
    u ∈ (h'.chain chain).pool := by
  rw [expiry_condition] at hok
  have hlen : ((h.chain chain).pool.reverse.filter h.expired).length ≤ (h.chain chain).pool.length := by
    have := List.length_filter_le h.expired (h.chain chain).pool.reverse
    rwa [List.length_reverse] at this
  refine (foldlM_expiry_inv _ ⟨hsorted, hbound, by omega, hu⟩ ?_ hok).mem
  intro s hs hid
  rw [List.mem_filter, List.mem_reverse] at hs
  have : s = u := hids s hs.1 u hu hid
  rw [this, expired_iff] at hs
  exact hnexp hs.2

/-- The side conditions used above and in `cancel_removes`, `cancel_once`,
    `refund_to_origin_chain` — pool in store order, ids unique, ids not ahead of the id counter —
    hold in every state reachable from genesis by model operations.  (What remains an assumption
    is only that the id counter stays below `2^64`.) -/
theorem reachable_pool_invariants (ops : List Op) (c : String) :
    PoolSorted ((runOps ops).chain c).pool ∧
    PoolIdsDistinct ((runOps ops).chain c).pool ∧
    ∀ v ∈ ((runOps ops).chain c).pool, v.id ≤ ((runOps ops).chain c).lastSteId := by
  obtain ⟨hs, ⟨hb, hu⟩, _⟩ := runOps_inv ops c
  exact ⟨hs, fun u hu' v hv' e => hu u v (Or.inl hu') (Or.inl hv') e, fun v hv => hb v (Or.inl hv)⟩

/-! ### Bridge lemmas -/

theorem fact_cancel_conds : Generated.cancel_conds =
    "ste.Id == id | send == nil | sender.String() != send.Sender | err != nil | err != nil | send.RefundChainId != \"\" | send.RefundChainId == \"hub\" | err != nil | err != nil | err != nil" := rfl
theorem fact_cancel_call_order : Generated.cancel_call_order =
    "MintCoins,SendCoinsFromModuleToAccount,SendCoinsFromModuleToAccount,createSendToExternal,SetTxStatus,deleteUnbatchedSendToExternal" := rfl
theorem fact_cancel_lookup : Generated.cancel_lookup = "k.getUnbatchedSendToExternals(ctx, chainId)" := rfl
theorem fact_cancel_refund_arith : Generated.cancel_refund_arith =
    "send.Token.HubCoin(func(id uint64) (string, error) { info, err := k.TokenIdToTokenInfoLookup(ctx, id) if err != nil { return \"\", err } return info.Denom, nil }) | totalToRefund.Amount.Add(send.Fee.Amount).Add(send.ValCommission.Amount) | k.ConvertFromExternalValue(ctx, chainId, send.Token.ExternalTokenId, totalToRefund.Amount) | sdk.NewCoins(totalToRefund)" := rfl
theorem fact_expiry_conds : Generated.expiry_conds =
    "ctx.BlockHeight()%1 == 0 | time.Unix(int64(ste.CreatedAt), 0).Add(k.GetOutgoingTxTimeout(ctx)).Before(ctx.BlockTime())" := rfl
theorem fact_end_order : Generated.end_order = "eventVoteRecordTally,refundExpiredTxs" := rfl


/-! ### Non-vacuity -/

def exSte (id : Nat) (fee : Int) (created : Nat) (rc : String) : Ste :=
  { id := id, sender := "a", recipient := "r", tokenId := 1, extToken := "T", amount := 5000000, fee := fee,
    comm := 0, chain := "e", txHash := "x", createdAt := created, refundAddr := "b", refundChain := rc }

/-- Two pool entries of one 6-decimals token on chain "e": #1 refunds to the hub and is expired at
    time 50 (timeout 10 s), #2 refunds to chain "m" and is not expired. -/
def exHub : Hub :=
  { chains := ["e", "m"], tokens := [⟨1, "hub", "e", "T", 6, 0⟩, ⟨2, "hub", "m", "0", 18, 0⟩],
    cs := [("e", { pool := [exSte 1 0 0 "hub", exSte 2 7 100 "m"], lastSteId := 2 })],
    time := 50, params := { outgoingTimeoutMs := 10000 } }

theorem exHub_pool : (exHub.chain "e").pool = [exSte 1 0 0 "hub", exSte 2 7 100 "m"] := by rfl

theorem exHub_sorted : PoolSorted (exHub.chain "e").pool := by
  rw [exHub_pool]
  simp only [PoolSorted, KeySorted, List.pairwise_cons, List.mem_cons, List.not_mem_nil, or_false,
    forall_eq, false_imp_iff, implies_true, List.Pairwise.nil, and_true]
  rw [poolKey_assoc, poolKey_assoc]
  show bytesLt (strBytes "T" ++ _) (strBytes "T" ++ _) = true
  rw [bytesLt_append_left]
  decide

theorem exHub_ids : PoolIdsDistinct (exHub.chain "e").pool := by
  rw [exHub_pool]
  intro u hu v hv
  simp only [List.mem_cons, List.not_mem_nil, or_false] at hu hv
  rcases hu with rfl | rfl <;> rcases hv with rfl | rfl <;> simp [exSte]

/-- `cancel_authorised`, `cancel_removes`, `cancel_once`, `refund_to_hub_sender` apply: the sender
    cancels #1 and gets 5 hub units; somebody else cannot. -/
example : ∃ h', exHub.cancelMsg "a" "e" 1 = .ok h' ∧
    exHub.cancelLookup "e" 1 = some (exSte 1 0 0 "hub") ∧ (exSte 1 0 0 "hub").refundChain = "hub" ∧
    PoolSorted (exHub.chain "e").pool ∧ PoolIdsDistinct (exHub.chain "e").pool ∧
    1 ≤ (exHub.chain "e").lastSteId := by
  obtain ⟨h', hc⟩ := ok_of_isOk (x := exHub.cancelMsg "a" "e" 1) (by decide)
  exact ⟨h', hc, by rfl, rfl, exHub_sorted, exHub_ids, by decide⟩

example : (match exHub.cancelMsg "a" "e" 1 with
    | .ok h' => h'.balance "a" "hub" == 5000000000000000000 && h'.supplyOf "hub" == 5000000000000000000
    | _ => false) = true := by decide

example : (match exHub.cancelMsg "b" "e" 1 with | .error (.fail _) => true | _ => false) = true := by decide

/-- `refund_to_origin_chain` applies: cancelling #2 schedules a transfer on chain "m". -/
example : ∃ h', exHub.cancelMsg "a" "e" 2 = .ok h' ∧
    exHub.cancelLookup "e" 2 = some (exSte 2 7 100 "m") ∧
    (exSte 2 7 100 "m").refundChain ≠ "" ∧ (exSte 2 7 100 "m").refundChain ≠ "hub" ∧
    (exSte 2 7 100 "m").refundChain ≠ "e" := by
  obtain ⟨h', hc⟩ := ok_of_isOk (x := exHub.cancelMsg "a" "e" 2) (by decide)
  exact ⟨h', hc, by rfl, by decide, by decide, by decide⟩

/-- `expiry_condition` / `expiry_keeps_unexpired` apply: the pass succeeds, #1 is expired, #2 is
    not (and therefore stays). -/
example : ∃ h', exHub.refundExpired "e" = .ok h' ∧
    exHub.expired (exSte 1 0 0 "hub") = true ∧ exHub.expired (exSte 2 7 100 "m") = false ∧
    (∀ v ∈ (exHub.chain "e").pool, v.id ≤ (exHub.chain "e").lastSteId) ∧
    (exHub.chain "e").lastSteId + (exHub.chain "e").pool.length < 2 ^ 64 ∧
    exSte 2 7 100 "m" ∈ (h'.chain "e").pool := by
  obtain ⟨h', hc⟩ := ok_of_isOk (x := exHub.refundExpired "e") (by decide)
  have hb : ∀ v ∈ (exHub.chain "e").pool, v.id ≤ (exHub.chain "e").lastSteId := by
    rw [exHub_pool]; intro v hv
    simp only [List.mem_cons, List.not_mem_nil, or_false] at hv
    rcases hv with rfl | rfl <;> decide
  have hroom : (exHub.chain "e").lastSteId + (exHub.chain "e").pool.length < 2 ^ 64 := by decide
  refine ⟨h', hc, by decide, by decide, hb, hroom, ?_⟩
  exact expiry_keeps_unexpired hc exHub_sorted exHub_ids hb hroom (by rw [exHub_pool]; simp) (by decide)

/-- The boundary is exclusive: an entry created exactly `timeout` before now is not expired. -/
example : ({ exHub with time := 10 } : Hub).expired (exSte 1 0 0 "hub") = false := by decide

/-- A state in which the refund of an expired entry cannot be routed: the entry names chain "m" as
    refund chain but the token's denom is not registered there. -/
def exStuck : Hub :=
  { chains := ["e", "m"], tokens := [⟨1, "hub", "e", "T", 6, 0⟩],
    cs := [("e", { pool := [exSte 2 7 0 "m"], lastSteId := 2 })],
    time := 50, params := { outgoingTimeoutMs := 10000 } }

/-- **Finding (expiry path is not atomic).**  `refundExpired` swallows the plain failure of
    `cancelSte` but keeps the writes made before it: the refund value (5.000007 hub units here) has
    already been minted and credited to `TempAddress`, the entry stays in the pool, and the next
    pass mints again.  So "refunded exactly once, to the right party" fails for expired entries
    whose refund cannot be scheduled on the refund chain; the message path (`cancelMsg`) is
    unaffected because it is rolled back as a whole. -/
theorem expiry_failed_refund_witness :
    (match exStuck.refundExpired "e" with
      | .ok h1 =>
        h1.supplyOf "hub" == 5000007000000000000 && h1.balance tempAddr "hub" == 5000007000000000000 &&
        (h1.chain "e").pool.length == 1 &&
        (match h1.refundExpired "e" with
          | .ok h2 => h2.supplyOf "hub" == 10000014000000000000 && (h2.chain "e").pool.length == 1
          | _ => false)
      | _ => false) = true ∧
    (match exStuck.cancelMsg "a" "e" 2 with | .error (.fail _) => true | _ => false) = true := by
  decide

end Mhub2.C12
