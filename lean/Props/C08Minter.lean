/-
  C08, Minter side — "whenever validators holding more than the threshold have confirmed a hub
  signer-set update or batch (in nonce order), the Minter multisig accepts it, and it accepts nothing
  confirmed by less".

  Model: `Mhub2/MinterRelay.lean` (what `relayBatches` / `relayValsets` of the connector's main.go pick
  and sign) and the multisig rule `minterAccepts` (`Mhub2/Contract.lean`).  The correspondence
  (`mloop` profile) runs the repository's connector code for every validator against the real hub
  keeper and compares each decision with these functions.
-/
import Mhub2.MinterRelay
import Mhub2.Generated.Facts
import Lemmas.MinterRelay
namespace Mhub2.C08M
open Mhub2


/-! ### 1. What a connector picks -/

/-- A connector only ever submits a transaction the hub listed, and one that carries at least one
    confirmation. -/
theorem pickBatch_mem {last : Nat} {bs : List HubTx} {b : HubTx} (h : pickBatch last bs = some b) :
    b ∈ bs ∧ b.nsigs > 0 ∧ last ≤ b.nonce := by
  obtain ⟨hl, hn⟩ := pickBatch_eq_some.1 h
  obtain ⟨hm, hs⟩ := mem_signedDesc.1 (List.mem_of_getLast? hl)
  exact ⟨hm, hs, hn⟩

/-- The batch a connector submits is the signed one with the lowest outgoing sequence: every other
    signed batch of the hub's answer has a sequence at least as high. -/
theorem pickBatch_lowest_sequence {last : Nat} {bs : List HubTx} {b : HubTx} (h : pickBatch last bs = some b) :
    ∀ x ∈ bs, x.nsigs > 0 → b.seq ≤ x.seq := fun _ hx hs =>
  -- the signed batches are sorted by decreasing sequence; the last one is a minimum
  getLast_le_of_pairwise_ge (signedDesc_sorted bs) (pickBatch_eq_some.1 h).1 (mem_signedDesc.2 ⟨hx, hs⟩)

/-- The signer set a connector submits is newer than the last one it saw executed, carries a
    confirmation, and no signed set before it in the hub's answer is newer than that last one: it is
    the oldest signed set still to be executed. -/
theorem pickValset_oldest {last : Nat} {vs : List HubTx} {v : HubTx} (h : pickValset last vs = some v) :
    v ∈ vs ∧ v.nsigs > 0 ∧ last < v.nonce ∧
      ∃ pre post, vs = pre ++ v :: post ∧ ∀ x ∈ pre, x.nsigs > 0 → x.nonce ≤ last := by
  obtain ⟨hw, hn⟩ := pickValset_eq_some.1 h
  obtain ⟨pre, post, hsplit, hs, hpre⟩ := pickValsetLoop_spec last vs none v hw hn
  exact ⟨by rw [hsplit]; simp, hs, hn, pre, post, hsplit, hpre⟩

/-- Without a bonded validator behind it (the hub refuses its "unsigned" query) a connector submits
    nothing. -/
theorem unbonded_connector_submits_nothing (last : Nat) (txs : List HubTx) :
    relayBatchesPick false last txs = none ∧ relayValsetsPick false last txs = none := ⟨rfl, rfl⟩


/-! ### 2. From confirmations to acceptance -/

/-- A submission of the transaction whose sequence is the multisig's next nonce, carrying the
    signatures of members whose installed weights reach 667, is accepted — and nothing with less
    weight or another nonce is.  (`C08.minter_accepts_iff` with `signedSum` written out.) -/
theorem multisig_accepts_iff (next n : Nat) (weights : List Nat) (signed : List Bool) :
    minterAccepts next n weights signed = true ↔
      n = next ∧ sumNats ((weights.zip signed).filterMap fun (w, b) => if b then some w else none) ≥ 667 := by
  unfold minterAccepts minterThreshold
  simp

/-- The signatures a batch submission carries are exactly the hub's confirmations by current members
    of the multisig (when no address is listed twice among the members): a confirmation of a member
    is never dropped, one of a non-member never included. -/
theorem batchSignatures_members {members confirmers : List String} (hnd : members.Nodup) :
    batchSignatures members confirmers = confirmers.filter fun c => members.contains c := by
  unfold batchSignatures
  induction confirmers with
  | nil => rfl
  | cons c cs ih =>
    rw [List.flatMap_cons, ih, List.filter_cons]
    by_cases hc : c ∈ members
    · have h1 : (members.filter fun m => m == c) = [c] := filter_eq_singleton_of_nodup hnd hc
      simp [h1, hc]
    · have h1 : (members.filter fun m => m == c) = [] := by
        rw [List.filter_eq_nil_iff]; intro a ha; simp; intro e; exact hc (e ▸ ha)
      simp [h1, hc]

theorem valsetSignatures_members (members confirmers : List String) :
    valsetSignatures true members confirmers = confirmers.filter fun c => members.contains c := by
  unfold valsetSignatures; simp

/-! ### 3. Progress: the transaction that is next gets submitted and, if confirmed, executed -/

/-- **Progress of batches in sequence order.**  If the batch `b` carries the multisig's next nonce as
    its sequence, has a confirmation, every batch the hub still lists has a sequence at or above it
    (the earlier ones were executed and removed), sequences are distinct and the connector has not
    counted more executed batches than `b`'s nonce, then `b` is the batch a connector submits. -/
theorem pickBatch_next {last : Nat} {bs : List HubTx} {b : HubTx}
    (hb : b ∈ bs) (hs : b.nsigs > 0) (hlast : last ≤ b.nonce)
    (hmin : ∀ x ∈ bs, b.seq ≤ x.seq) (hdist : ∀ x ∈ bs, x.seq = b.seq → x = b) :
    pickBatch last bs = some b := by
  have hbm := mem_signedDesc.2 ⟨hb, hs⟩
  cases hl : (signedDesc bs).getLast? with
  | none =>
    rw [List.getLast?_eq_none_iff] at hl
    rw [hl] at hbm
    cases hbm
  | some y =>
    have hyb : y ∈ bs := (mem_signedDesc.1 (List.mem_of_getLast? hl)).1
    have h1 : y.seq ≤ b.seq := getLast_le_of_pairwise_ge (signedDesc_sorted bs) hl hbm
    have h2 : b.seq ≤ y.seq := hmin y hyb
    have hyeq : y = b := hdist y hyb (by omega)
    subst hyeq
    exact pickBatch_eq_some.2 ⟨hl, hlast⟩

/-- **Progress of signer sets.**  If `v` is the first signed set of the hub's answer that is newer than
    the last set the connector saw executed, it is the one the connector submits. -/
theorem pickValset_next {last : Nat} {pre post : List HubTx} {v : HubTx}
    (hs : v.nsigs > 0) (hn : last < v.nonce) (hpre : ∀ x ∈ pre, x.nsigs > 0 → x.nonce ≤ last) :
    pickValset last (pre ++ v :: post) = some v :=
  pickValset_eq_some.2 ⟨pickValsetLoop_next hs hn pre none hpre, hn⟩

/-- **From confirmations to execution, one step.**  The transaction whose sequence is the multisig's next
    nonce, picked as above and carrying the signatures of members whose installed weights reach 667, is
    accepted by the multisig. -/
theorem next_confirmed_batch_is_executed {last next : Nat} {bs : List HubTx} {b : HubTx}
    {weights : List Nat} {signed : List Bool}
    (hb : b ∈ bs) (hs : b.nsigs > 0) (hlast : last ≤ b.nonce) (hseq : b.seq = next)
    (hmin : ∀ x ∈ bs, b.seq ≤ x.seq) (hdist : ∀ x ∈ bs, x.seq = b.seq → x = b)
    (hw : sumNats ((weights.zip signed).filterMap fun (w, s) => if s then some w else none) ≥ 667) :
    ∃ t, pickBatch last bs = some t ∧ minterAccepts next t.seq weights signed = true := by
  refine ⟨b, pickBatch_next hb hs hlast hmin hdist, ?_⟩
  unfold minterAccepts minterThreshold
  simp [hseq, hw]

/-! ### 4. Bridge lemmas: the source of main.go the model was written from -/

theorem fact_conn_threshold : Generated.conn_threshold = "667" := rfl
theorem fact_conn_batches_conds : Generated.conn_batches_conds =
    "err != nil | err != nil | err != nil | len(confirms) > 0 | err != nil | err != nil | sigs.Size() > 0 | oldestSignedBatch == nil | oldestSignedBatch.BatchNonce < ctx.LastBatchNonce() | err != nil | err != nil | strings.ToLower(member[2:]) == strings.ToLower(sig.ExternalSigner[2:]) | err != nil | err != nil | err != nil | err != nil | response.Code != 0" := rfl
theorem fact_conn_batches_calls : Generated.conn_batches_calls =
    "tx.SetNonce(batch.Sequence).SetGasPrice(1).SetGasCoin(0).SetSignatureType(transaction.SignatureTypeMulti) | sort.Slice(latestBatches.Batches, func(i, j int) bool { return latestBatches.Batches[i].Sequence > latestBatches.Batches[j].Sequence }) | tx.SetNonce(oldestSignedBatch.Sequence).SetGasPrice(1).SetGasCoin(0).SetSignatureType(transaction.SignatureTypeMulti)" := rfl
theorem fact_conn_valsets_conds : Generated.conn_valsets_conds =
    "err != nil | err != nil | err != nil | len(confirms) > 0 | err != nil | err != nil | sigs.Size() > 0 | oldestSignedValset.Nonce > ctx.LastValsetNonce() | oldestSignedValset == nil | oldestSignedValset.Nonce <= ctx.LastValsetNonce() | err != nil | err != nil | msig.Multisig != nil | strings.ToLower(member[2:]) == strings.ToLower(sig.ExternalSigner[2:]) | hasMember || msig.Multisig == nil | err != nil | err != nil | err != nil | err != nil | response.Code != 0" := rfl
theorem fact_conn_valsets_weight : Generated.conn_valsets_weight =
    "uint32(sdk.NewUint(val.Power).MulUint64(1000).QuoUint64(totalPower).Uint64()) | uint32(sdk.NewUint(val.Power).MulUint64(1000).QuoUint64(totalPower).Uint64())" := rfl
theorem fact_conn_valsets_calls : Generated.conn_valsets_calls =
    "tx.SetPayload([]byte(strconv.Itoa(int(valset.Nonce)))) | tx.SetNonce(valset.Sequence).SetGasPrice(1).SetGasCoin(0).SetSignatureType(transaction.SignatureTypeMulti) | tx.SetNonce(oldestSignedValset.Sequence).SetGasPrice(1).SetGasCoin(0).SetSignatureType(transaction.SignatureTypeMulti) | tx.SetPayload([]byte(strconv.Itoa(int(oldestSignedValset.Nonce))))" := rfl

/-! ### 5. Non-vacuity -/

example : pickBatch 2 [⟨6, 3, 3⟩, ⟨8, 4, 3⟩, ⟨10, 6, 1⟩, ⟨13, 7, 0⟩, ⟨5, 2, 3⟩, ⟨9, 5, 3⟩] = some ⟨5, 2, 3⟩ := by decide
example : pickBatch 3 [⟨6, 3, 3⟩, ⟨5, 2, 3⟩] = none := by decide
example : pickBatch 2 [⟨6, 3, 3⟩, ⟨5, 2, 1⟩, ⟨9, 5, 0⟩] = some ⟨5, 2, 1⟩ := by decide
example : pickValset 2 [⟨1, 1, 3⟩, ⟨2, 2, 3⟩, ⟨4, 3, 1⟩, ⟨7, 4, 2⟩] = some ⟨4, 3, 1⟩ := by decide
example : pickValset 2 [⟨1, 1, 3⟩, ⟨2, 2, 3⟩, ⟨4, 3, 0⟩] = none := by decide
example : minterAccepts 4 4 [564, 408, 27] [true, true, false] = true ∧ minterAccepts 4 4 [564, 408, 27] [true, false, true] = false := by decide
example : batchSignatures ["a", "b", "c"] ["c", "x", "a"] = ["c", "a"] := by decide

end Mhub2.C08M
