/-
  C11 — Amounts credited, debited and paid out are exact.
  Property theorems only; helper lemmas live in Lemmas/.
-/
import Mhub2.Votes
import Mhub2.Generated.Facts
import Lemmas.Ops
namespace Mhub2.C11
open Mhub2

theorem deposit_credit {h h' : Hub} {chain coin receiver tx : String} {amount : Int}
    (hok : h.handleSendToHub chain coin amount receiver tx = .ok h') :
    ∃ tok, h.tokenByExt chain coin = some tok ∧
      h'.balance receiver tok.denom = h.balance receiver tok.denom + fromExt tok.dec amount ∧
      h'.supplyOf tok.denom = h.supplyOf tok.denom + fromExt tok.dec amount := by
  obtain ⟨tok, hm, htok, _, _, hv, rfl⟩ := handleSendToHub_ok hok
  obtain ⟨_, hb, hs⟩ := mintTo_ok hv
  exact ⟨tok, htok, hb, hs⟩

theorem deposit_conversion_exact {d : Nat} (hd : d ≤ 18) (amount : Int) :
    fromExt d amount = amount * pow10 (18 - d) := fromExt_le18 hd amount

theorem deposit_conversion_trunc {d : Nat} (hd : 18 < d) (amount : Int) :
    fromExt d amount * pow10 (d - 18) ≤ amount ∧ amount < (fromExt d amount + 1) * pow10 (d - 18) := by
  rw [fromExt_gt18 hd]
  exact floor_bounds amount (pow10_pos _)

theorem scheduled_conversion {d : Nat} (a : Int) :
    (18 ≤ d → toExt d a = a * pow10 (d - 18)) ∧
    (d < 18 → toExt d a * pow10 (18 - d) ≤ a ∧ a < (toExt d a + 1) * pow10 (18 - d)) := by
  constructor
  · intro hd; exact toExt_ge18 hd a
  · intro hd; rw [toExt_lt18 hd]; exact floor_bounds a (pow10_pos _)

theorem withdraw_debit {h h' : Hub} {sender chain rcp denom tx : String} {amount fee : Int} {id : Nat}
    (hwf : h.TokensWF)
    (hok : h.sendToExternal sender chain rcp denom amount fee tx = .ok (h', id)) :
    ∃ tok rate comm,
      h.tokenByDenom chain denom = some tok ∧
      rate = h.commissionRateFor ["<bech32>", rcp] tok.commission ∧
      comm = commissionOf rate (amount + fee) ∧ 0 ≤ comm ∧ comm ≤ amount ∧
      h'.balance sender denom = h.balance sender denom - (amount + fee) ∧
      h'.supplyOf denom = h.supplyOf denom - (amount + fee) ∧
      id = (h.chain chain).lastSteId + 1 ∧
      ∃ s ∈ (h'.chain chain).pool, s.id = id ∧ s.sender = sender ∧ s.recipient = rcp ∧
        s.amount = toExt tok.dec (amount - comm) ∧ s.fee = toExt tok.dec fee ∧ s.comm = toExt tok.dec comm ∧
        s.refundChain = "hub" ∧ s.refundAddr = sender := by
  obtain ⟨tok, comm, htok, hcomm, _, _, _, hc0, hca, hc⟩ := sendToExternal_ok hok
  obtain ⟨tok', hb, htok', hburn, hid, rfl⟩ := createSte_ok hc
  obtain rfl : tok = tok' := Option.some.inj (htok.symm.trans htok')
  obtain ⟨_, _, hbal, hsup, hcs, htoks, _, _⟩ := burnFrom_ok hburn
  have hchain : hb.chain chain = h.chain chain := chain_of_cs hcs chain
  -- the token found by denomination is the one its chain and external id name
  have hte : ∀ x, hb.toExternal chain tok.extId x = toExt tok.dec x := fun x => by
    obtain ⟨hmem, hch, _⟩ := tokenByDenom_some htok
    have := tokenByExt_of_mem hwf hmem
    rw [hch] at this
    unfold Hub.toExternal Hub.tokenByExt
    rw [htoks, ← Hub.tokenByExt, this]
  refine ⟨tok, _, comm, htok, rfl, hcomm, hc0, hca, ?_, ?_, by rw [hid, hchain], ?_⟩
  · show hb.balance sender denom = _
    rw [hbal]; omega
  · show hb.supplyOf denom = _
    rw [hsup]; omega
  · rw [chain_setChain]
    exact ⟨_, mem_insertByKey _ _ _, hid.symm, rfl, rfl, hte _, hte _, hte _, rfl, rfl⟩

theorem commission_bound (h : Hub) (addrs : List String) {rate x : Int} (hr : 0 ≤ rate) (hx : 0 ≤ x) :
    let r := h.commissionRateFor addrs rate
    0 ≤ r ∧ r ≤ rate ∧
    commissionOf r x * decOne ≤ r * x ∧ r * x < (commissionOf r x + 1) * decOne ∧
    commissionOf r x * decOne ≤ rate * x := by
  intro r
  have hb := commissionRate_bounds hr (addrs.foldl (fun m a => max (h.holderValue a) m) 0)
  have hr0 : 0 ≤ r := hb.1
  have hle : r ≤ rate := hb.2
  refine ⟨hr0, hle, commissionOf_le hr0 hx, commissionOf_gt hr0 hx, ?_⟩
  exact Int.le_trans (commissionOf_le hr0 hx) (Int.mul_le_mul_of_nonneg_right hle hx)

/-- The six discount tiers of `GetCommissionForHolder` (keeper.go; boundaries inclusive, `GTE`). -/
theorem tiers (v : Int) :
    (32 * decOne ≤ v → discountPct v = 60) ∧
    (16 * decOne ≤ v → v < 32 * decOne → discountPct v = 50) ∧
    (8 * decOne ≤ v → v < 16 * decOne → discountPct v = 40) ∧
    (4 * decOne ≤ v → v < 8 * decOne → discountPct v = 30) ∧
    (2 * decOne ≤ v → v < 4 * decOne → discountPct v = 20) ∧
    (1 * decOne ≤ v → v < 2 * decOne → discountPct v = 10) ∧
    (v < 1 * decOne → discountPct v = 0) := by
  have hd : 0 < decOne := by decide
  unfold discountPct
  generalize decOne = d at hd ⊢
  refine ⟨fun h => if_pos h, fun h1 h2 => ?_, fun h1 h2 => ?_, fun h1 h2 => ?_, fun h1 h2 => ?_,
    fun h1 h2 => ?_, fun h => ?_⟩
  · rw [if_neg (Int.not_le.mpr h2), if_pos h1]
  -- a value below one threshold is below all higher ones
  · rw [if_neg, if_neg (Int.not_le.mpr h2), if_pos h1]
    omega
  · rw [if_neg, if_neg, if_neg (Int.not_le.mpr h2), if_pos h1]
    all_goals omega
  · rw [if_neg, if_neg, if_neg, if_neg (Int.not_le.mpr h2), if_pos h1]
    all_goals omega
  · rw [if_neg, if_neg, if_neg, if_neg, if_neg (Int.not_le.mpr h2), if_pos h1]
    all_goals omega
  · rw [if_neg, if_neg, if_neg, if_neg, if_neg, if_neg (Int.not_le.mpr h)]
    all_goals omega

/-! ### Bridge lemmas: the source expressions behind the model -/

/-- The token table is searched by exact equality (the model's `Hub.tokenByExt`, `Hub.tokenByDenom`, `Hub.tokenById`), so the id a
    claim carries and the id a batch is stored under are the same string whenever the claim has any effect. -/
theorem fact_token_lookup_conds : Generated.token_lookup_conds =
    "ExternalIdToTokenInfoLookup: info.ChainId == chainId.String() && info.ExternalTokenId == externalId | DenomToTokenInfoLookup: info.Denom == denom && info.ChainId == chainId.String() | TokenIdToTokenInfoLookup: info.Id == tokenId" := rfl
theorem fact_send_commission : Generated.send_commission =
    "k.GetCommissionForHolder(ctx, []string{sender.String(), msg.ExternalRecipient}, tokenInfo.Commission).Mul(msg.Amount.Amount.Add(msg.BridgeFee.Amount).ToDec()).TruncateInt()" := rfl
theorem fact_send_create_args : Generated.send_create_args =
    "ctx | chainId | sender | msg.ExternalRecipient | msg.Amount.SubAmount(commission) | msg.BridgeFee | sdk.NewCoin(msg.Amount.Denom, commission) | fmt.Sprintf(\"%x\", sha256.Sum256(ctx.TxBytes())) | \"hub\" | sender.String()" := rfl
theorem fact_create_order : Generated.create_order =
    "DenomToTokenInfoLookup,SendCoinsFromAccountToModule,BurnCoins,incrementLastSendToExternalIDKey,setUnbatchedSendToExternal" := rfl
theorem fact_sth_convert : Generated.sth_convert =
    "a.keeper.ConvertFromExternalValue(ctx, chainId, event.ExternalCoinId, event.Amount)" := rfl
theorem fact_sth_coin : Generated.sth_coin = "sdk.NewCoin(tokenInfo.Denom, convertedAmount)" := rfl

/-- Non-vacuity: a concrete state in which a withdrawal succeeds. -/
def exHub : Hub := { chains := ["ethereum"], tokens := [⟨1, "hub", "ethereum", "0xT", 6, 10000000000000000⟩],
                     bal := [(("a", "hub"), 1000000000000000000)], supply := [("hub", 1000000000000000000)] }
example : (match exHub.sendToExternal "a" "ethereum" "0xR" "hub" 500000000000000000 1000 "tx" with
    | .ok (_, id) => id == 1 | _ => false) = true := by decide

end Mhub2.C11
