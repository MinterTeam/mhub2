/-
  C17 — The delegate-key registry is one-to-one and self-authorised.

  Per external chain, an external address or orchestrator account is bound to at most one
  validator; a binding is created only by `Hub.setDelegateKeys`, only for an existing validator and
  only with a signature of the external key over (validator, sequence number − 1 of the
  registering transaction); what an orchestrator sends is attributed to the validator stored for it.

  The ECDSA signature is abstracted to what was signed: the key `signedBy` signed the message
  `(signedVal, signedNonce)`.
-/
import Mhub2.Step
import Mhub2.Generated.Facts
import Lemmas.Keys
namespace Mhub2.C17
open Mhub2

/-! ### What the invariant `RegInv` says -/

/-- An external address is bound to at most one validator. -/
theorem ext_injective {c : ChainSt} (hi : RegInv c) {v1 v2 e : String}
    (h1 : alGet c.valExt v1 = some e) (h2 : alGet c.valExt v2 = some e) : v1 = v2 :=
  hi.ext_inj v1 v2 e h1 h2

/-- Every current binding is present, consistently, in all three maps. -/
theorem three_maps_consistent {c : ChainSt} (hi : RegInv c) {v e : String}
    (h : alGet c.valExt v = some e) :
    ∃ o, alGet c.extOrch e = some o ∧ alGet c.orchVal o = some v :=
  hi.consistent v e h

/-- An orchestrator is the current orchestrator of at most one validator. -/
theorem orch_current_injective {c : ChainSt} (hi : RegInv c) {v1 v2 e1 e2 o : String}
    (h1 : alGet c.valExt v1 = some e1) (o1 : alGet c.extOrch e1 = some o)
    (h2 : alGet c.valExt v2 = some e2) (o2 : alGet c.extOrch e2 = some o) : v1 = v2 := by
  have e : e1 = e2 := hi.orch_inj e1 e2 o o1 o2
  subst e
  exact hi.ext_inj v1 v2 e1 h1 h2

theorem current_orch_resolves {c : ChainSt} (hi : RegInv c) {v e o : String}
    (h : alGet c.valExt v = some e) (ho : alGet c.extOrch e = some o) : alGet c.orchVal o = some v := by
  obtain ⟨o', h1, h2⟩ := hi.consistent v e h
  rw [ho] at h1
  injection h1 with h1
  subst h1
  exact h2

theorem keys_distinct {c : ChainSt} (hi : RegInv c) :
    (c.valExt.map (·.1)).Nodup ∧ (c.orchVal.map (·.1)).Nodup ∧ (c.extOrch.map (·.1)).Nodup :=
  ⟨hi.keys_valExt, hi.keys_orchVal, hi.keys_extOrch⟩

/-- The association lists are maps: an entry is exactly what a lookup of its key returns. -/
theorem entry_iff_lookup {c : ChainSt} (hi : RegInv c) (k x : String) :
    ((k, x) ∈ c.valExt ↔ alGet c.valExt k = some x) ∧
    ((k, x) ∈ c.orchVal ↔ alGet c.orchVal k = some x) ∧
    ((k, x) ∈ c.extOrch ↔ alGet c.extOrch k = some x) :=
  ⟨⟨alGet_of_mem hi.keys_valExt, mem_of_alGet⟩, ⟨alGet_of_mem hi.keys_orchVal, mem_of_alGet⟩,
   ⟨alGet_of_mem hi.keys_extOrch, mem_of_alGet⟩⟩

/-! ### The invariant holds in every reachable state -/

theorem reg_inv_init : RegInv {} := RegInv.init

theorem set_delegate_keys_preserves {h h' : Hub} {chain val orch eth signedBy signedVal : String}
    {signedNonce accSeq : Nat} (hi : RegInv (h.chain chain))
    (hok : h.setDelegateKeys chain val orch eth signedBy signedVal signedNonce accSeq = .ok h') :
    RegInv (h'.chain chain) ∧
    ∀ ch, ch ≠ chain → (h'.chain ch).valExt = (h.chain ch).valExt ∧
      (h'.chain ch).orchVal = (h.chain ch).orchVal ∧ (h'.chain ch).extOrch = (h.chain ch).extOrch := by
  obtain ⟨_, he, ho, _, _, _, e⟩ := setDelegateKeys_ok hok
  subst e
  refine ⟨?_, ?_⟩
  · rw [chain_setChain]
    exact hi.register val orch eth he ho
  · intro ch hne
    rw [chain_setChain_ne _ _ (Ne.symm hne)]
    exact ⟨rfl, rfl, rfl⟩

theorem apply_preserves (h : Hub) (op : Op) (hi : ∀ ch, RegInv (h.chain ch)) :
    ∀ ch, RegInv ((apply h op).1.chain ch) := apply_regInv h op hi

/-- The invariant holds for every chain in every state reachable from genesis by any history of
    operations (every message, begin/end block, configuration changes). -/
theorem reg_inv_reachable : ∀ (ops : List Op) (chain : String), RegInv ((runOps ops).chain chain) :=
  regInv_reachable

/-! ### Bindings are self-authorised and made only by `setDelegateKeys` -/

/-- A registration succeeds only for an existing validator, with the external key's signature over
    that validator and the sequence number of the registering transaction (`accSeq − 1`, the
    sequence having been incremented before the handler runs), and only when neither the external
    address nor the orchestrator is in use; it then sets exactly the three bindings. -/
theorem binding_self_authorised {h h' : Hub} {chain val orch eth signedBy signedVal : String}
    {signedNonce accSeq : Nat}
    (hok : h.setDelegateKeys chain val orch eth signedBy signedVal signedNonce accSeq = .ok h') :
    (h.validator? val).isSome = true ∧ signedBy = eth ∧ signedVal = val ∧
    signedNonce = (if accSeq > 0 then accSeq - 1 else 0) ∧
    (∀ v, alGet (h.chain chain).valExt v ≠ some eth) ∧
    (∀ e, alGet (h.chain chain).extOrch e ≠ some orch) ∧
    (∀ p ∈ (h.chain chain).valExt, p.2 ≠ eth) ∧ (∀ p ∈ (h.chain chain).extOrch, p.2 ≠ orch) ∧
    -- the three bindings are set …
    alGet (h'.chain chain).valExt val = some eth ∧
    alGet (h'.chain chain).extOrch eth = some orch ∧
    alGet (h'.chain chain).orchVal orch = some val ∧
    -- … and nothing else changes
    (∀ v, v ≠ val → alGet (h'.chain chain).valExt v = alGet (h.chain chain).valExt v) ∧
    (∀ e, e ≠ eth → alGet (h'.chain chain).extOrch e = alGet (h.chain chain).extOrch e) ∧
    (∀ o, o ≠ orch → alGet (h'.chain chain).orchVal o = alGet (h.chain chain).orchVal o) ∧
    h' = h.setChain chain { h.chain chain with
      orchVal := alSet (h.chain chain).orchVal orch val,
      valExt := alSet (h.chain chain).valExt val eth,
      extOrch := alSet (h.chain chain).extOrch eth orch } := by
  obtain ⟨hv, he, ho, h1, h2, h3, e⟩ := setDelegateKeys_ok hok
  refine ⟨hv, h1, h2, h3, fun v hv => he _ (mem_of_alGet hv) rfl, fun x hx => ho _ (mem_of_alGet hx) rfl,
    he, ho, ?_, ?_, ?_, ?_, ?_, ?_, e⟩ <;> rw [e, chain_setChain]
  · exact alGet_alSet_same _ _ _
  · exact alGet_alSet_same _ _ _
  · exact alGet_alSet_same _ _ _
  · intro v hne; exact alGet_alSet_other _ _ _ _ (Ne.symm hne)
  · intro x hne; exact alGet_alSet_other _ _ _ _ (Ne.symm hne)
  · intro o hne; exact alGet_alSet_other _ _ _ _ (Ne.symm hne)

/-- Conversely a correctly signed request for an existing validator with an unused external address
    and orchestrator succeeds: the conditions of `binding_self_authorised` are exactly the guard. -/
theorem binding_complete {h : Hub} {chain val orch eth : String} {accSeq : Nat}
    (hv : (h.validator? val).isSome = true)
    (he : ∀ p ∈ (h.chain chain).valExt, p.2 ≠ eth)
    (ho : ∀ p ∈ (h.chain chain).extOrch, p.2 ≠ orch) :
    ∃ h', h.setDelegateKeys chain val orch eth eth val (if accSeq > 0 then accSeq - 1 else 0) accSeq
      = .ok h' :=
  ⟨_, setDelegateKeys_of hv he ho⟩

private theorem not_ok_error {m : M Hub} (h : ∀ h', m ≠ .ok h') : ∃ e, m = .error e := by
  cases m with
  | ok a => exact absurd rfl (h a)
  | error e => exact ⟨e, rfl⟩

/-- A signature over any other sequence number (a replayed or pre-computed one) is rejected. -/
theorem stale_nonce_rejected (h : Hub) (chain val orch eth signedBy signedVal : String)
    (signedNonce accSeq : Nat) (hne : signedNonce ≠ (if accSeq > 0 then accSeq - 1 else 0)) :
    ∃ e, h.setDelegateKeys chain val orch eth signedBy signedVal signedNonce accSeq = .error e :=
  not_ok_error fun _ hok => hne (binding_self_authorised hok).2.2.2.1

theorem foreign_signature_rejected (h : Hub) (chain val orch eth signedBy signedVal : String)
    (signedNonce accSeq : Nat) (hne : signedBy ≠ eth ∨ signedVal ≠ val) :
    ∃ e, h.setDelegateKeys chain val orch eth signedBy signedVal signedNonce accSeq = .error e :=
  not_ok_error fun _ hok => by
    have := binding_self_authorised hok
    rcases hne with hne | hne
    · exact hne this.2.1
    · exact hne this.2.2.1

theorem in_use_rejected (h : Hub) (chain val orch eth signedBy signedVal : String)
    (signedNonce accSeq : Nat)
    (hu : (∃ v, alGet (h.chain chain).valExt v = some eth) ∨
          (∃ e, alGet (h.chain chain).extOrch e = some orch)) :
    ∃ e, h.setDelegateKeys chain val orch eth signedBy signedVal signedNonce accSeq = .error e :=
  not_ok_error fun _ hok => by
    have := binding_self_authorised hok
    rcases hu with ⟨v, hv⟩ | ⟨e, he⟩
    · exact this.2.2.2.2.1 v hv
    · exact this.2.2.2.2.2.1 e he

/-- A validator's external address changes only through a successful `delegate` for that chain and
    that validator (or the harness `reset`): no other message, block hook or configuration operation
    creates, changes or removes a binding. -/
theorem only_set_delegate_keys_binds (h : Hub) (op : Op) (c v : String)
    (hne : alGet ((apply h op).1.chain c).valExt v ≠ alGet (h.chain c).valExt v) :
    (∃ orch eth sb sv n s, op = .delegate c v orch eth sb sv n s ∧ (apply h op).2 = "ok") ∨
    op = .reset := by
  rcases apply_keyMaps h op with hk | hr | ⟨chain, val, orch, eth, sb, sv, n, s, hop, hok⟩
  · rw [(hk c).1] at hne
    exact absurd rfl hne
  · exact Or.inr hr
  · left
    obtain ⟨_, _, _, _, _, _, e⟩ := setDelegateKeys_ok hok
    rw [e] at hne
    by_cases hc : chain = c
    · subst hc
      rw [chain_setChain] at hne
      by_cases hv : val = v
      · subst hv hop
        exact ⟨orch, eth, sb, sv, n, s, rfl, congrArg Prod.snd (outM_ok hok)⟩
      · exact absurd (alGet_alSet_other _ _ _ _ hv) hne
    · rw [chain_setChain_ne _ _ hc] at hne
      exact absurd rfl hne

/-! ### What an orchestrator sends is attributed to the validator stored for it -/

theorem signer_resolution {h : Hub} {c o v v' : String}
    (hreg : alGet (h.chain c).orchVal o = some v) (hok : h.signerValidator c o = .ok v') : v' = v := by
  obtain ⟨_, _, _, _, h1 | ⟨h1, _⟩⟩ := signerValidator_ok hok
  · rw [hreg] at h1
    injection h1 with h1
    exact h1.symm
  · rw [hreg] at h1
    cases h1

theorem signer_resolution_after_register {h h' : Hub} {chain val orch eth signedBy signedVal v : String}
    {signedNonce accSeq : Nat}
    (hok : h.setDelegateKeys chain val orch eth signedBy signedVal signedNonce accSeq = .ok h')
    (hres : h'.signerValidator chain orch = .ok v) : v = val := by
  obtain ⟨_, _, _, _, _, _, _, _, _, _, horch, _⟩ := binding_self_authorised hok
  exact signer_resolution horch hres

/-- A registration is never erased (which the one-to-one property does not forbid).  When a
    validator registers a new orchestrator and external address, its previous orchestrator keeps resolving to it (`orchVal` is only ever extended or
    overwritten for the orchestrator being registered), although by `RegInv` it is no longer the
    orchestrator of the validator's current external address. -/
theorem previous_orchestrator_keeps_resolving {h h' : Hub}
    {chain val orch eth signedBy signedVal o v : String} {signedNonce accSeq : Nat}
    (hreg : alGet (h.chain chain).orchVal o = some v)
    (hok : h.setDelegateKeys chain val orch eth signedBy signedVal signedNonce accSeq = .ok h')
    (hne : o ≠ orch) : alGet (h'.chain chain).orchVal o = some v := by
  obtain ⟨_, _, _, _, _, _, _, _, _, _, _, _, _, hother, _⟩ := binding_self_authorised hok
  rw [hother o hne]
  exact hreg

/-- The validator stored for an orchestrator changes only when that orchestrator is registered
    (again): with the previous theorem, the validator stored for `o` is the one that last
    registered `o`. -/
theorem only_registration_rebinds_orchestrator (h : Hub) (op : Op) (c o : String)
    (hne : alGet ((apply h op).1.chain c).orchVal o ≠ alGet (h.chain c).orchVal o) :
    (∃ val eth sb sv n s, op = .delegate c val o eth sb sv n s ∧ (apply h op).2 = "ok" ∧
      alGet ((apply h op).1.chain c).orchVal o = some val) ∨
    op = .reset := by
  rcases apply_keyMaps h op with hk | hr | ⟨chain, val, orch, eth, sb, sv, n, s, hop, hok⟩
  · rw [(hk c).2.1] at hne
    exact absurd rfl hne
  · exact Or.inr hr
  · left
    obtain ⟨_, _, _, _, _, _, e⟩ := setDelegateKeys_ok hok
    rw [e] at hne
    by_cases hc : chain = c
    · subst hc
      rw [chain_setChain] at hne
      by_cases ho : orch = o
      · subst ho hop
        refine ⟨val, eth, sb, sv, n, s, rfl, congrArg Prod.snd (outM_ok hok), ?_⟩
        rw [e, chain_setChain]
        exact alGet_alSet_same _ _ _
      · exact absurd (alGet_alSet_other _ _ _ _ ho) hne
    · rw [chain_setChain_ne _ _ hc] at hne
      exact absurd rfl hne

theorem vote_attributed {h h' : Hub} {chain o v : String} {ev : Event}
    (hreg : alGet (h.chain chain).orchVal o = some v) (hok : h.submitEvent chain o ev = .ok h') :
    ∃ c', (h.chain chain).recordVote ev ev.hash v = .ok c' ∧ h' = h.setChain chain c' := by
  obtain ⟨_, v', c', hv, hc, e⟩ := submitEvent_ok hok
  have := signer_resolution hreg hv
  subst this
  exact ⟨c', hc, e⟩

theorem confirmation_attributed {h h' : Hub} {chain o v ext sig : String} {k : ConfKind}
    (hreg : alGet (h.chain chain).orchVal o = some v) (hok : h.confirm chain o k ext sig = .ok h') :
    (⟨k.index chain, v, sig⟩ : SigRec) ∈ (h'.chain chain).sigs ∧
    alGet (h.chain chain).valExt v = some ext := by
  obtain ⟨_, _, v', hv, _, hext, _, _, e⟩ := confirm_ok hok
  have := signer_resolution hreg hv
  subst this
  rw [e, chain_setChain]
  exact ⟨mem_insertByKey _ _ _, hext⟩

/-! ### Bridge lemmas: the source the model was written from -/

theorem fact_delegate_conds : Generated.delegate_conds =
    "err != nil | err != nil | k.Keeper.StakingKeeper.Validator(ctx, valAddr) == nil | len(validators) > 0 | len(ethAddrs) > 0 | err != nil | valAccSeq > 0 | err != nil" := rfl
theorem fact_delegate_signmsg : Generated.delegate_signmsg = "valAddr.String() ; nonce" := rfl
theorem fact_delegate_writes : Generated.delegate_writes =
    "ValidateEthereumSignature,SetOrchestratorValidatorAddress,setValidatorExternalAddress,setExternalOrchestratorAddress" := rfl
theorem fact_signer_conds : Generated.signer_conds =
    "err != nil | validator == nil | validatorI == nil | !validatorI.IsBonded()" := rfl

/-! ### Non-vacuity -/

def exHub : Hub :=
  { chains := ["ethereum"], staking := [⟨"aa", 10, true⟩, ⟨"bb", 5, true⟩] }

/-- A registration that succeeds; the orchestrator then resolves to the validator. -/
example : (match exHub.setDelegateKeys "ethereum" "aa" "o1" "0xE1" "0xE1" "aa" 4 5 with
    | .ok h' => alGet (h'.chain "ethereum").valExt "aa" == some "0xE1" &&
        (match h'.signerValidator "ethereum" "o1" with | .ok v => v == "aa" | _ => false)
    | _ => false) = true := by decide

/-- The same request signed over a stale sequence number, or re-using the external address for
    another validator, fails. -/
example : (match exHub.setDelegateKeys "ethereum" "aa" "o1" "0xE1" "0xE1" "aa" 3 5 with
    | .ok _ => false | _ => true) = true := by decide
example : (match exHub.setDelegateKeys "ethereum" "aa" "o1" "0xE1" "0xE1" "aa" 4 5 with
    | .ok h' => (match h'.setDelegateKeys "ethereum" "bb" "o2" "0xE1" "0xE1" "bb" 0 0 with
        | .ok _ => false | _ => true)
    | _ => false) = true := by decide

/-- The previous orchestrator of a validator that registered again still resolves to it. -/
example : (match exHub.setDelegateKeys "ethereum" "aa" "o1" "0xE1" "0xE1" "aa" 4 5 with
    | .ok h1 => (match h1.setDelegateKeys "ethereum" "aa" "o2" "0xE2" "0xE2" "aa" 5 6 with
        | .ok h2 => (match h2.signerValidator "ethereum" "o1" with | .ok v => v == "aa" | _ => false) &&
            alGet (h2.chain "ethereum").valExt "aa" == some "0xE2"
        | _ => false)
    | _ => false) = true := by decide

/-- A history in which the invariant is exercised: two validators registered through `apply`. -/
example : ((runOps [.chains ["ethereum"], .staking [⟨"aa", 10, true⟩, ⟨"bb", 5, true⟩],
    .delegate "ethereum" "aa" "o1" "0xE1" "0xE1" "aa" 0 1,
    .delegate "ethereum" "bb" "o2" "0xE2" "0xE2" "bb" 0 1]).chain "ethereum").valExt
    = [("aa", "0xE1"), ("bb", "0xE2")] := by decide

end Mhub2.C17
