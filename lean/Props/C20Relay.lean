/-
  C20 — the connector's live loop `relayMinterEvents` (cmd/mhub-minter-connector/main.go),
  model `Mhub2.relay` / `Mhub2.relayRounds`.

  The property asks that every validator assigns every Minter event the same nonce and that the
  persisted cursor is consistent "for every point at which the connector is stopped".  The start-up
  scan is covered in `Props/C20.lean`; here the live loop is covered for every Minter history,
  every start cursor and every polling schedule (which heights the node reported in which round):

  * every status file the loop writes is consistent with the history relative to the start cursor
    (next event nonce = start nonce + number of bridge events at or below its last-checked block),
    with the analogous laws for the batch nonce and the valset nonce;
  * the claims handed to the committer carry consecutive event nonces starting at the start nonce,
    one per bridge event, in block order; the cursor's batch nonce advances by the batch
    transactions of the window;
  * the numbering does not depend on where rounds are cut: two connectors that start from the same
    cursor and poll on different schedules produce claim lists one of which is a prefix of the other;
  * claims are sent before the cursor that numbers past them is written: while a claim is waiting no
    status file is written, so a crash before the send restarts from a cursor at or below the first
    unsent event (and the start-up scan theorems apply to that restart).
-/
import Mhub2.Connector
import Mhub2.Generated.Facts
import Lemmas.Relay
namespace Mhub2.C20R
open Mhub2


/-! ### 1. One round -/

/-- Every status file written by one round is consistent with the history relative to the start
    cursor, and so are its batch and valset nonces. -/
theorem relay_commits_consistent {chain : List MBlock} (hwf : ChainWF chain) (start : Cursor) (latest : Nat) :
    ∀ c ∈ (relay start chain latest).commits,
      consistent chain start c = true ∧
      c.nextBatch = start.nextBatch + batchesBetween chain start.lastChecked c.lastChecked ∧
      c.lastValset = valsetAfter start.lastValset (txsBetween chain start.lastChecked c.lastChecked) ∧
      ∃ b ∈ chain, start.lastChecked < b.height ∧ c.lastChecked = b.height :=
  fun c hc => blockEnd_laws hwf (mem_blockEnds_window hwf start latest (relay_commits_sub start chain latest c hc))

/-- The cursor a round ends with has counted exactly the bridge events of its window. -/
theorem relay_final_cursor (start : Cursor) (chain : List MBlock) (latest : Nat) :
    (relay start chain latest).cur.nextEvent =
      start.nextEvent + eventsBetween chain start.lastChecked (relayLimit start latest) ∧
    (relay start chain latest).cur.nextBatch =
      start.nextBatch + batchesBetween chain start.lastChecked (relayLimit start latest) := by
  rw [(relay_spec start chain latest).1, curAfter_nextEvent, curAfter_nextBatch]
  exact ⟨rfl, rfl⟩

/-- A round never looks more than 100 blocks beyond the cursor. -/
theorem relay_window_bounded (start : Cursor) (chain : List MBlock) (latest : Nat) :
    ∀ b ∈ relayWindow start chain latest, start.lastChecked < b.height ∧ b.height ≤ start.lastChecked + 100 ∧ b.height ≤ latest := by
  intro b hb
  have := (List.mem_filter.mp hb).2
  simp only [Bool.and_eq_true, decide_eq_true_eq] at this
  unfold relayLimit at this
  split at this <;> omega

/-- The claims of a round: one per bridge event of the window, with consecutive event nonces
    starting at the start cursor's nonce. -/
theorem relay_claim_nonces (start : Cursor) (chain : List MBlock) (latest : Nat) :
    (relay start chain latest).claims.map Claim.nonce =
      List.range' start.nextEvent (eventsBetween chain start.lastChecked (relayLimit start latest)) := by
  rw [(relay_spec start chain latest).2.1, blockClaims_nonces]; rfl

theorem relay_cursor_after_claims (start : Cursor) (chain : List MBlock) (latest : Nat) :
    (relay start chain latest).cur.nextEvent = start.nextEvent + (relay start chain latest).claims.length := by
  rw [(relay_spec start chain latest).1, (relay_spec start chain latest).2.1, blockClaims_length, curAfter_nextEvent]

theorem relay_claim_heights (start : Cursor) (chain : List MBlock) (latest : Nat) :
    ∀ cl ∈ (relay start chain latest).claims, ∃ b ∈ relayWindow start chain latest, cl.height = b.height := by
  rw [(relay_spec start chain latest).2.1]; exact blockClaims_heights _ _

/-- While a claim of the round is waiting to be sent no status file is written: every commit made
    inside the block loop carries the start cursor's event nonce (it has counted no event). -/
theorem relay_loop_commits_before_claims (start : Cursor) (chain : List MBlock) (latest : Nat) :
    ∀ c ∈ loopCommits start false (relayWindow start chain latest), c.nextEvent = start.nextEvent := by
  generalize relayWindow start chain latest = bs
  induction bs generalizing start with
  | nil => intro c hc; cases hc
  | cons b bs ih =>
    intro c hc
    unfold loopCommits at hc
    split at hc
    · cases hc
    · rename_i hcond
      simp only [Bool.false_or, Bool.not_eq_true', Bool.not_eq_false] at hcond
      have hlen : evCnt b.txs = 0 := by
        rw [← txClaims_length start b.height b.txs]
        simpa [List.isEmpty_iff] using hcond
      have he : (endCur start b).nextEvent = start.nextEvent := by rw [endCur_nextEvent, hlen]; rfl
      rcases List.mem_cons.mp hc with h | h
      · rw [h, he]
      · rw [ih _ c h, he]

/-- A round with claims ends by writing exactly the final cursor (after the send). -/
theorem relay_last_commit (start : Cursor) (chain : List MBlock) (latest : Nat)
    (h : (relay start chain latest).claims ≠ []) :
    (relay start chain latest).commits.getLast? = some (relay start chain latest).cur := by
  obtain ⟨h1, h2, h3⟩ := relay_spec start chain latest
  rw [h3, h1]
  rw [h2] at h
  have : (blockClaims start (relayWindow start chain latest)).isEmpty = false := by
    cases hx : blockClaims start (relayWindow start chain latest) with
    | nil => exact absurd hx h
    | cons _ _ => rfl
  simp [this]

/-! ### 2. Any number of rounds, cut anywhere -/

/-- For every polling schedule, every status file written is consistent with the history relative to
    the cursor the connector started from. -/
theorem rounds_commits_consistent {chain : List MBlock} (hwf : ChainWF chain) (start : Cursor) (ls : List Nat) :
    ∀ c ∈ (relayRounds chain start ls).2.2,
      consistent chain start c = true ∧
      c.nextBatch = start.nextBatch + batchesBetween chain start.lastChecked c.lastChecked ∧
      c.lastValset = valsetAfter start.lastValset (txsBetween chain start.lastChecked c.lastChecked) := by
  intro c hc
  obtain ⟨W, rest, hsplit, _, _, hcm⟩ := relayRounds_spec hwf ls start
  have hmem : c ∈ blockEnds start (chain.filter fun b => b.height > start.lastChecked) := by
    rw [hsplit, blockEnds_append]; exact List.mem_append_left _ (hcm c hc)
  obtain ⟨hcons, hnb, hvs, _⟩ := blockEnd_laws hwf hmem
  exact ⟨hcons, hnb, hvs⟩

/-- For every polling schedule the claims carry consecutive event nonces from the start nonce, and
    the final cursor numbers exactly past them. -/
theorem rounds_claim_nonces {chain : List MBlock} (hwf : ChainWF chain) (start : Cursor) (ls : List Nat) :
    (relayRounds chain start ls).2.1.map Claim.nonce =
      List.range' start.nextEvent (relayRounds chain start ls).2.1.length ∧
    (relayRounds chain start ls).1.nextEvent = start.nextEvent + (relayRounds chain start ls).2.1.length := by
  obtain ⟨W, rest, _, hc, hcl, _⟩ := relayRounds_spec hwf ls start
  rw [hcl, hc, blockClaims_nonces, blockClaims_length, curAfter_nextEvent]
  exact ⟨rfl, rfl⟩

/-- **Same numbering for every validator.**  Two connectors that start from the same cursor and see
    the same Minter history, but poll on different schedules (and so cut the history into different
    rounds), hand over claim lists one of which is a prefix of the other: every Minter event gets
    the same nonce, height and kind from both. -/
theorem rounds_same_numbering {chain : List MBlock} (hwf : ChainWF chain) (start : Cursor) (ls₁ ls₂ : List Nat) :
    (relayRounds chain start ls₁).2.1 <+: (relayRounds chain start ls₂).2.1 ∨
    (relayRounds chain start ls₂).2.1 <+: (relayRounds chain start ls₁).2.1 := by
  obtain ⟨W1, r1, hs1, _, hcl1, _⟩ := relayRounds_spec hwf ls₁ start
  obtain ⟨W2, r2, hs2, _, hcl2, _⟩ := relayRounds_spec hwf ls₂ start
  rw [hcl1, hcl2]
  have p1 : W1 <+: (chain.filter fun b => b.height > start.lastChecked) := ⟨r1, hs1.symm⟩
  have p2 : W2 <+: (chain.filter fun b => b.height > start.lastChecked) := ⟨r2, hs2.symm⟩
  rcases List.prefix_or_prefix_of_prefix p1 p2 with ⟨t, ht⟩ | ⟨t, ht⟩
  · left; rw [← ht, blockClaims_append]; exact List.prefix_append _ _
  · right; rw [← ht, blockClaims_append]; exact List.prefix_append _ _

/-- … and both agree with the start-up scan: a restart from the same cursor whose scan does not
    take the early return ends, over the same blocks, with the cursor the live loop would have. -/
theorem rounds_agree_with_resync {chain : List MBlock} (hwf : ChainWF chain) (start : Cursor) (ack : Nat) (ls : List Nat)
    (hns : (resync start ack chain).stopped = false)
    (hall : (relayRounds chain start ls).1.lastChecked = (resync start ack chain).cur.lastChecked) :
    (relayRounds chain start ls).1.nextEvent = (resync start ack chain).cur.nextEvent := by
  obtain ⟨W, rest, hsplit, hc, _, _⟩ := relayRounds_spec hwf ls start
  rcases resync_spec start ack chain with ⟨_, _, h2⟩ | ⟨h1, _⟩
  · rw [h2, hc] at hall
    -- the two cursors have the same last-checked block, so nothing above `W` is left
    have hrest := filter_gt_curAfter hwf start hsplit
    rw [hall, filter_gt_curAfter hwf start (List.append_nil _).symm] at hrest
    rw [h2, hc, hsplit, ← hrest, List.append_nil]
  · rw [h1] at hns; cases hns

/-! ### 3. Non-vacuity

  The conditions and writes of `relayMinterEvents` the model transcribes are tied to main.go in
  Props/C20.lean (`fact_conn_relay_conds`, `fact_conn_relay_writes`). -/

def exChain : List MBlock :=
  [⟨10, [.send true true true, .other]⟩, ⟨11, []⟩, ⟨12, [.multisend true, .send true true false]⟩,
   ⟨13, [.editMultisig true (some 7), .send true true true]⟩, ⟨15, [.other]⟩]

example : ChainWF exChain := by simp [ChainWF, exChain]
example : (relay ⟨9, 5, 1, 0⟩ exChain 13).claims =
    [.deposit 5 10, .batch 6 1 12, .valset 7 7 13, .deposit 8 13] := by decide
example : (relay ⟨9, 5, 1, 0⟩ exChain 13).commits = [⟨13, 9, 2, 7⟩] := by decide
example : (relay ⟨10, 6, 1, 0⟩ exChain 11).commits = [⟨11, 6, 1, 0⟩] ∧ (relay ⟨10, 6, 1, 0⟩ exChain 11).claims = [] := by decide
example : (relayRounds exChain ⟨9, 5, 1, 0⟩ [10, 12, 15]).2.1 = (relayRounds exChain ⟨9, 5, 1, 0⟩ [15]).2.1 := by decide
example : (relayRounds exChain ⟨9, 5, 1, 0⟩ [11]).2.1 <+: (relayRounds exChain ⟨9, 5, 1, 0⟩ [13, 15]).2.1 := by decide

end Mhub2.C20R
