/-
  C18 — the stored price depends on the reports only through "how much weight stands behind each value"
  (the median itself is characterised in Props/C18.lean).
-/
import Mhub2.Oracle
import Lemmas.Oracle
namespace Mhub2.C18M
open Mhub2

/-- Two report lists with the same weighted multiset of values (the lists in which every value is repeated as often as its
    weight are permutations of each other) have the same median: nothing else about the reports — their order, who made
    them, how a weight is split over several entries — can move the stored price. -/
theorem weightedMedian_congr {l l' : List (Int × Nat)} (h : (expandWeighted l).Perm (expandWeighted l')) :
    weightedMedian l = weightedMedian l' :=
  Mhub2.weightedMedian_congr h

/-- A report without voting power (a validator that is not bonded, or whose stake is below 1/65535 of the total) does not
    move the price, whatever value it names and wherever it stands among the reports. -/
theorem zero_weight_report_ignored (v : Int) (l₁ l₂ : List (Int × Nat)) :
    weightedMedian (l₁ ++ (v, 0) :: l₂) = weightedMedian (l₁ ++ l₂) := by
  apply weightedMedian_congr
  simp [expandWeighted, List.flatMap_append, List.flatMap_cons]

theorem report_order_irrelevant {l l' : List (Int × Nat)} (h : l.Perm l') :
    weightedMedian l = weightedMedian l' :=
  weightedMedian_congr (expandWeighted_perm h)

theorem same_value_reports_add (v : Int) (a b : Nat) (l : List (Int × Nat)) :
    weightedMedian ((v, a) :: (v, b) :: l) = weightedMedian ((v, a + b) :: l) := by
  apply weightedMedian_congr
  unfold expandWeighted
  simp only [List.flatMap_cons, ← List.append_assoc, List.replicate_append_replicate]
  exact List.Perm.refl _

/-- Non-vacuity: a tie — half of the weight at 1000, half at 3000, a powerless report of 1200 in between — has the
    median 2000 with or without the powerless report (weights 2 and 2: the expanded list has one entry per unit). -/
example : weightedMedian [(1000, 2), (1200, 0), (3000, 2)] = some 2000 := by
  rw [show [((1000 : Int), 2), (1200, 0), (3000, 2)] = [((1000 : Int), 2)] ++ (1200, 0) :: [(3000, 2)] from rfl,
    zero_weight_report_ignored 1200 [(1000, 2)] [(3000, 2)]]
  unfold weightedMedian
  rw [sortByValue_of_sorted (by decide)]
  decide

end Mhub2.C18M
