/-
  C15 — Genesis export/import round trip.
  `Hub.exportImport` is the model of ExportGenesis → JSON → InitGenesis on a fresh instance; the
  harness performs that round trip on the real keepers at block boundaries of seeded histories and
  compares every store section and the behaviour of the continuation with the model.
  The full statement (everything needed to continue is preserved) is FALSE of the code: the
  negation witnesses below name each lost part (known findings); what is preserved is proved.
-/
import Mhub2.Step
import Mhub2.Generated.Facts
import Lemmas.Assoc
namespace Mhub2.C15
open Mhub2

theorem alGet_map_self {ν : Type} (f : String → ν) (l : List String) (c : String) (hc : c ∈ l) :
    alGet (l.map fun x => (x, f x)) c = some (f c) := by
  induction l with
  | nil => cases hc
  | cons x xs ih =>
    rw [List.map_cons, alGet]
    by_cases hx : x = c
    · rw [if_pos (beq_iff_eq.mpr hx), hx]
    · rw [if_neg fun h => hx (beq_iff_eq.mp h)]
      exact ih ((List.mem_cons.mp hc).resolve_left fun h => hx h.symm)

theorem chain_exportImport (h : Hub) (c : String) (hc : c ∈ h.chains) :
    h.exportImport.chain c = (h.chain c).exportImport h.height := by
  unfold Hub.exportImport
  simp only [Hub.chain]
  rw [alGet_map_self (fun c => ((alGet h.cs c).getD {}).exportImport h.height) h.chains c hc]
  rfl

/-- What the exported projection preserves, for every chain of the configuration: every nonce and
    counter that is exported, the last observed signer set and external height, the per-validator
    nonces; and the hub-wide token list, parameters, prices and holders. -/
theorem roundtrip_projection (h : Hub) (c : String) (hc : c ∈ h.chains) :
    let c' := h.exportImport.chain c
    c'.lastObserved = (h.chain c).lastObserved ∧ c'.outSeq = (h.chain c).outSeq ∧
    c'.lastBatchNonce = (h.chain c).lastBatchNonce ∧ c'.lastObservedSet = (h.chain c).lastObservedSet ∧
    c'.obsExtHeight = (h.chain c).obsExtHeight ∧ c'.lastNonceBy = (h.chain c).lastNonceBy ∧
    h.exportImport.tokens = h.tokens ∧ h.exportImport.params = h.params ∧ h.exportImport.chains = h.chains ∧
    h.exportImport.prices = h.prices ∧ h.exportImport.holders = h.holders := by
  intro c'
  have : c' = (h.chain c).exportImport h.height := chain_exportImport h c hc
  rw [this]
  exact ⟨rfl, rfl, rfl, rfl, rfl, rfl, rfl, rfl, rfl, rfl, rfl⟩

theorem oracle_roundtrip_projection (o : OracleSt) :
    o.exportImport.prices = o.prices ∧ o.exportImport.holders = o.holders := ⟨rfl, rfl⟩

/-- What is lost, by construction of the export: the unbatched pool, every outgoing transaction
    (batches and signer sets with their sequence numbers), confirmations, vote records, the transfer
    id counter and the signer-set nonce counter. -/
theorem roundtrip_loses (c : ChainSt) (ht : Nat) :
    (c.exportImport ht).pool = [] ∧ (c.exportImport ht).batches = [] ∧ (c.exportImport ht).sets = [] ∧
    (c.exportImport ht).sigs = [] ∧ (c.exportImport ht).records = [] ∧
    (c.exportImport ht).lastSteId = 0 ∧ (c.exportImport ht).latestSetNonce = 0 ∧
    (c.exportImport ht).obsCosmosHeight = ht := ⟨rfl, rfl, rfl, rfl, rfl, rfl, rfl, rfl⟩

theorem hub_roundtrip_loses (h : Hub) : h.exportImport.status = [] ∧ h.exportImport.feeRec = [] := ⟨rfl, rfl⟩
theorem oracle_roundtrip_loses (o : OracleSt) :
    o.exportImport.epoch = 1 ∧ o.exportImport.priceVotes = [] ∧ o.exportImport.priceClaims = [] := ⟨rfl, rfl, rfl⟩

def exChain : ChainSt :=
  { pool := [{ id := 1, sender := "a", recipient := "r", tokenId := 1, extToken := "t", amount := 5, fee := 1,
               comm := 0, chain := "c", txHash := "x", createdAt := 0, refundAddr := "a", refundChain := "hub" }],
    lastSteId := 1 }

/-- The full statement is false: a state with a pending transfer whose round trip differs (the
    transfer is gone and the next transfer would reuse its id). -/
theorem full_statement_false :
    (exChain.exportImport 7).pool ≠ exChain.pool ∧ (exChain.exportImport 7).lastSteId ≠ exChain.lastSteId := by
  constructor
  · intro h; simp [ChainSt.exportImport, exChain] at h
  · decide

/-- A chain state none of whose non-exported parts is populated, whose delegate-key maps are empty
    and whose observed-height record was written at the export height, survives the round trip
    unchanged; the continuation of such a state is therefore identical. -/
theorem roundtrip_fixpoint (c : ChainSt) (ht : Nat)
    (h1 : c.pool = []) (h2 : c.batches = []) (h3 : c.sets = []) (h4 : c.sigs = []) (h5 : c.records = [])
    (h6 : c.lastSteId = 0) (h7 : c.latestSetNonce = 0) (h8 : c.obsCosmosHeight = ht)
    (h9 : c.valExt = []) (h10 : c.orchVal = []) (h11 : c.extOrch = []) :
    c.exportImport ht = c := by
  cases c
  simp_all [ChainSt.exportImport]

theorem roundtrip_single_binding (c : ChainSt) (ht : Nat) (v e o : String)
    (h1 : c.valExt = [(v, e)]) (h2 : alGet c.extOrch e = some o) :
    (c.exportImport ht).valExt = [(v, e)] ∧ (c.exportImport ht).orchVal = [(o, v)] ∧
    (c.exportImport ht).extOrch = [(e, o)] := by
  simp [ChainSt.exportImport, h1, h2, alSet]

/-! ### Bridge lemmas: the field sets written by ExportGenesis and read by InitGenesis -/

theorem fact_genesis_exported : Generated.genesis_exported =
    "Params,TokenInfos,ChainId,DelegateKeys,Nonces,LastObservedEventNonce,Sequence,LastObservedValset,LastOutgoingBatchTxNonce,LatestBlockHeight" := rfl
theorem fact_genesis_imported : Generated.genesis_imported =
    "data.ExternalStates,data.Params,data.TokenInfos,externalState.ChainId,externalState.Confirmations,externalState.DelegateKeys,externalState.ExternalEventVoteRecords,externalState.LastObservedEventNonce,externalState.LastObservedValset,externalState.LastOutgoingBatchTxNonce,externalState.LatestBlockHeight,externalState.LatestBlockHeight.ExternalHeight,externalState.Nonces,externalState.OutgoingTxs,externalState.Sequence,externalState.UnbatchedSendToExternalTxs" := rfl
theorem fact_genesis_import_counters : Generated.genesis_import_counters =
    "k.SetLastObservedExternalBlockHeight(ctx, chainId, externalState.LatestBlockHeight.ExternalHeight) | k.setLastObservedEventNonce(ctx, chainId, externalState.LastObservedEventNonce) | k.setLastOutgoingBatchNonce(ctx, chainId, externalState.LastOutgoingBatchTxNonce) | k.setOutgoingSequence(ctx, chainId, externalState.Sequence)" := rfl
theorem fact_oracle_genesis_exported : Generated.oracle_genesis_exported = "Params,Prices,Holders" := rfl
theorem fact_oracle_genesis_epoch : Generated.oracle_genesis_epoch = "k.setCurrentEpoch(ctx, 1)" := rfl

end Mhub2.C15
