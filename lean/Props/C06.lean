/-
  C06 — Executing the same genesis and the same ordered blocks always yields byte-identical module
  state and emitted events, independent of map iteration order, goroutine scheduling or process
  instance.

  The Lean model is a function, so the model is trivially deterministic.  The content of this file
  is that every place where the Go code ranges over a `map` (random order in Go) or sorts computes
  something that does not depend on the enumeration order.  The sites are regenerated from the Go
  sources on every run (`Generated.det_map_ranges`, `det_sorts`, `det_floats`, `det_goroutines`,
  `det_time_rand`) and pinned in section 7: a new site changes the string and breaks the build.

  `l1.Perm l2` models "the same map enumerated in two different orders".  For the sites whose model
  definition fixes one enumeration (`eraseDups` of the inserted keys), a `…Via` variant takes the
  enumeration as a parameter; it is the model for the model's own enumeration (by `rfl`) and is
  proved not to depend on the enumeration.

  Trusted base, outside Lean: Go `uint64`/`int64` arithmetic at these sites does not wrap for the
  bounded powers involved, and IEEE-754 double addition of integers below 2^53 is exact (section 3).
-/
import Mhub2.Oracle
import Mhub2.Generated.Facts
import Lemmas.Det
namespace Mhub2.C06
open Mhub2 Mhub2.Det

/-! ### 1. Sorted key lists: `sort.Strings` / `sort.Slice` after `for k := range m` -/

/-- The distinctness hypothesis (map keys are distinct) is not needed: `sort_perm_invariant_multiset`. -/
theorem sort_perm_invariant {α : Type} (lt : α → α → Bool)
    (hirr : ∀ a, lt a a = false)
    (htrans : ∀ a b c, lt a b = true → lt b c = true → lt a c = true)
    (htot : ∀ a b, a ≠ b → lt a b = true ∨ lt b a = true)
    {l1 l2 : List α} (h : l1.Perm l2) (_hnd : l1.Nodup) : isort lt l1 = isort lt l2 :=
  isort_perm_invariant lt hirr htrans htot h

theorem sort_perm_invariant_multiset {α : Type} (lt : α → α → Bool)
    (hirr : ∀ a, lt a a = false)
    (htrans : ∀ a b c, lt a b = true → lt b c = true → lt a c = true)
    (htot : ∀ a b, a ≠ b → lt a b = true ∨ lt b a = true)
    {l1 l2 : List α} (h : l1.Perm l2) : isort lt l1 = isort lt l2 :=
  isort_perm_invariant lt hirr htrans htot h

/-- The byte order on strings (`sort.Strings`) is a strict total order: `strBytes` is injective. -/
theorem string_order_strict_total :
    (∀ a, strLt a a = false) ∧
    (∀ a b c, strLt a b = true → strLt b c = true → strLt a c = true) ∧
    (∀ a b, a ≠ b → strLt a b = true ∨ strLt b a = true) :=
  ⟨strLt_irrefl, strLt_trans, strLt_total⟩

/-! #### 1a. `createBatchTxs`: `for k := range coinIds { ids = append(ids, k) }; sort.Strings(ids)` -/

/-- `createBatchTxs` with the enumeration of the `coinIds` map supplied from outside. -/
def createBatchesVia (h : Hub) (chain : String) (keys : List String) : Hub :=
  if h.height % 2 == 0 then
    (isort (fun a b => bytesLt (strBytes a) (strBytes b)) keys).foldl
      (fun h id => (h.buildBatch chain id 100).1) h
  else h

theorem createBatchesVia_model (h : Hub) (chain : String) :
    createBatchesVia h chain ((h.chain chain).pool.map (·.extToken)).eraseDups = h.createBatches chain :=
  rfl

theorem create_batches_perm_invariant (h : Hub) (chain : String) {k1 k2 : List String}
    (hp : k1.Perm k2) : createBatchesVia h chain k1 = createBatchesVia h chain k2 := by
  unfold createBatchesVia
  have : isort (fun a b => bytesLt (strBytes a) (strBytes b)) k1 =
      isort (fun a b => bytesLt (strBytes a) (strBytes b)) k2 := isort_strLt_perm hp
  rw [this]

/-- Whatever duplicate-free enumeration of the token ids present in the pool Go's map iteration
    produces, the resulting state is the model's. -/
theorem create_batches_order_independent (h : Hub) (chain : String) {keys : List String}
    (hn : keys.Nodup) (hm : ∀ x, x ∈ keys ↔ ∃ s ∈ (h.chain chain).pool, s.extToken = x) :
    createBatchesVia h chain keys = h.createBatches chain := by
  rw [← createBatchesVia_model]
  apply create_batches_perm_invariant
  apply perm_eraseDups_of_nodup hn
  intro x; rw [hm, List.mem_map]

/-! #### 1b. `eventVoteRecordTally`: `for k := range attmap`, `sort.Slice(keys, <)` -/

theorem tally_keys_order_independent {k1 k2 : List Nat} (hp : k1.Perm k2) :
    isort natLt k1 = isort natLt k2 :=
  isort_perm_invariant natLt natLt_irrefl natLt_trans natLt_total hp

/-- `eventVoteRecordTally` as written in Go: the snapshot `attmap` groups the records by nonce
    (each group in store-iterator order, `GetExternalEventVoteRecordMapping` appends while
    iterating the store), the nonces are enumerated from the map (`keys`), sorted, and the groups
    are processed in that order.  The model's `Hub.tally` builds no map and folds over the store, so
    there is no instance of `tallyVia` that is the model by `rfl`: `tally_order_independent` ties the
    two, under the store-order invariant. -/
def tallyVia (h : Hub) (mintsFee : Bool) (chain : String) (keys : List Nat) : M Hub :=
  let recs := (h.chain chain).records
  (isort natLt keys).foldlM (fun (h : Hub) n =>
    (recs.filter (fun r => r.nonce == n)).foldlM (fun (h : Hub) r => h.tryRecord mintsFee chain r) h) h

theorem tally_perm_invariant (h : Hub) (mintsFee : Bool) (chain : String) {k1 k2 : List Nat}
    (hp : k1.Perm k2) : tallyVia h mintsFee chain k1 = tallyVia h mintsFee chain k2 := by
  unfold tallyVia
  rw [tally_keys_order_independent hp]

/-- The per-nonce record lists come from the store iterator, not from the map: for a store in key
    order (`be8 nonce ++ hash`, `uint64` nonces) and any duplicate-free enumeration of the nonces
    present, the Go loop visits the records exactly in store order, which is what the model's
    `Hub.tally` folds over.  The two hypotheses on the store are fields of the reachable-state
    invariant `VInvB` of Lemmas/Votes (`base.sorted`, `bounded`). -/
theorem tally_order_independent (h : Hub) (mintsFee : Bool) (chain : String) {keys : List Nat}
    (hn : keys.Nodup) (hm : ∀ n, n ∈ keys ↔ ∃ r ∈ (h.chain chain).records, r.nonce = n)
    (hs : (h.chain chain).records.Pairwise (fun a b => bytesLt (recKey a) (recKey b) = true))
    (hb : ∀ r ∈ (h.chain chain).records, r.nonce < 2 ^ 64) :
    tallyVia h mintsFee chain keys = h.tally mintsFee chain := by
  unfold tallyVia Hub.tally
  simp only
  rw [← foldlM_flatMap (m := M)
    (fun (h : Hub) r => h.tryRecord mintsFee chain r)
    (fun n => (h.chain chain).records.filter (fun r => r.nonce == n))]
  rw [flatMap_groups_eq VoteRec.nonce (isort natLt keys) (isort_natLt_strict hn)
    (h.chain chain).records (records_sorted_by_nonce hs hb)]
  intro r hr
  rw [(isort_perm natLt keys).mem_iff, hm]
  exact ⟨r, hr, rfl⟩

/-! #### 1c. Oracle price names: `for name := range pricesSum`, `sort.Strings(priceNames)` -/

theorem price_names_order_independent {n1 n2 : List String} (hp : n1.Perm n2) :
    isort (fun a b => bytesLt (strBytes a) (strBytes b)) n1 =
      isort (fun a b => bytesLt (strBytes a) (strBytes b)) n2 :=
  isort_strLt_perm hp

/-- The price handler with the enumeration of the `pricesSum` map supplied from outside.  The
    per-name value lists (`priceReports`) are appended in vote order, a slice order. -/
def computePricesVia (powers : List (String × Nat)) (votes : List String)
    (claims : List (String × List (String × Int))) (names : List String) : List (String × Int) :=
  (isort (fun a b => bytesLt (strBytes a) (strBytes b)) names).filterMap fun n =>
    (weightedMedian (priceReports powers votes claims n)).map fun m => (n, m)

theorem computePricesVia_model (powers : List (String × Nat)) (votes : List String)
    (claims : List (String × List (String × Int))) :
    computePricesVia powers votes claims ((priceContributions powers votes claims).map (·.1)).eraseDups
      = computePrices powers votes claims := rfl

theorem compute_prices_order_independent (powers : List (String × Nat)) (votes : List String)
    (claims : List (String × List (String × Int))) {names : List String} (hn : names.Nodup)
    (hm : ∀ x, x ∈ names ↔ x ∈ (priceContributions powers votes claims).map (·.1)) :
    computePricesVia powers votes claims names = computePrices powers votes claims := by
  rw [← computePricesVia_model]
  unfold computePricesVia
  rw [price_names_order_independent (perm_eraseDups_of_nodup hn hm)]

/-! ### 2. `getLastEventNonceByValidator`: `for nonce, atts := range attmap` computing a minimum -/

theorem min_fold_perm_invariant {l1 l2 : List VoteRec} (h : l1.Perm l2) (s : Nat) :
    l1.foldl (fun lo r => if r.accepted && r.nonce < lo then r.nonce else lo) s =
      l2.foldl (fun lo r => if r.accepted && r.nonce < lo then r.nonce else lo) s :=
  h.foldl_eq' (fun x _ y _ z => minStep_comm z x y) s

theorem min_fold_is_min (l : List VoteRec) (s : Nat) :
    let m := l.foldl (fun lo r => if r.accepted && r.nonce < lo then r.nonce else lo) s
    m ≤ s ∧ (∀ r ∈ l, r.accepted = true → m ≤ r.nonce) ∧
    (m = s ∨ ∃ r ∈ l, r.accepted = true ∧ m = r.nonce) :=
  foldl_minStep_spec l s

theorem last_nonce_order_independent (c : ChainSt) {recs2 : List VoteRec}
    (hp : c.records.Perm recs2) (v : String) :
    ({ c with records := recs2 } : ChainSt).lastNonceOf v = c.lastNonceOf v := by
  unfold ChainSt.lastNonceOf
  simp only
  rw [← hp.isEmpty_eq, ← min_fold_perm_invariant hp c.lastObserved]

/-! ### 3. `PowerDiff`: `for _, v := range powers { delta += math.Abs(float64(v)) }` -/

theorem powerdiff_range_order_independent (a b : List Signer) {keys : List String}
    (hp : keys.Perm (pdKeys a b)) : sumNats (keys.map (pdTerm a b)) = powerDiffNum a b := by
  rw [powerDiffNum_eq]
  exact sumNats_perm (hp.map _)

/-- `PowerDiff` is a function of the two signer *sets*: reordering either argument (in the code both
    slices come from store iterators or sorts, so their order is already fixed) does not change it,
    provided the addresses of the first are pairwise distinct (its loop is last-write-wins).  The distinctness of `b` is
    not needed: its loop subtracts cumulatively. -/
theorem powerdiff_perm_invariant {a1 a2 b1 b2 : List Signer} (ha : a1.Perm a2) (hb : b1.Perm b2)
    (hna : (a1.map (·.addr)).Nodup) (_hnb : (b1.map (·.addr)).Nodup) :
    powerDiffNum a1 b1 = powerDiffNum a2 b2 := by
  rw [powerDiffNum_eq, powerDiffNum_eq]
  have hf : pdTerm a1 b1 = pdTerm a2 b2 := funext (pdTerm_perm ha hb hna)
  rw [hf]
  exact sumNats_perm ((pdKeys_perm ha hb).map _)

/-- The decision of `createSignerSetTxs` (`powerDiff > 0.05`, in the model
    `20 * powerDiffNum … > MaxUint32`) does not depend on the order of either signer list. -/
theorem signerset_decision_order_independent {a1 a2 b1 b2 : List Signer} (ha : a1.Perm a2)
    (hb : b1.Perm b2) (hna : (a1.map (·.addr)).Nodup) (hnb : (b1.map (·.addr)).Nodup) :
    decide (20 * powerDiffNum a1 b1 > maxU32) = decide (20 * powerDiffNum a2 b2 > maxU32) := by
  rw [powerdiff_perm_invariant ha hb hna hnb]

/-- Without distinct addresses in the first argument the value depends on the *slice* order of
    that argument (last write wins) — a property of the input, not of map iteration. -/
example : powerDiffNum [⟨1, "x"⟩, ⟨5, "x"⟩] [] = 5 ∧ powerDiffNum [⟨5, "x"⟩, ⟨1, "x"⟩] [] = 1 := by
  decide

/-- The float comparison `delta / 4294967295 > 0.05` against the integer test of the model
    `20 * delta > 4294967295`: the two sides of the threshold are separated by an integer gap.
    For `delta ≤ 214748364` the exact quotient is at most `0.05·(1 − 15/4294967295)`, for
    `delta ≥ 214748365` at least `0.05·(1 + 5/4294967295)`: relative margins above `10⁻⁹`, seven
    orders of magnitude more than the `2⁻⁵²` relative error of one correctly rounded division and
    of the literal `0.05`.  (IEEE-754 correct rounding is the trusted base; not modelled.) -/
theorem powerdiff_threshold_int (delta : Nat) :
    (delta ≤ 214748364 → 20 * delta + 15 ≤ 4294967295) ∧
    (214748365 ≤ delta → 4294967295 + 5 ≤ 20 * delta) ∧
    (20 * delta > maxU32 ↔ 214748365 ≤ delta) := by
  unfold maxU32; omega

/-- Every partial sum of at most `2^20` terms bounded by `MaxUint32` is below `2^53`, so it is an
    exactly representable double, every `delta += …` is exact, and the float sum equals the
    integer sum whatever the order.  (Exactness of IEEE-754 addition on integers `< 2^53` is the
    trusted base.) -/
theorem sum_below_2_53 {l : List Nat} (hlen : l.length ≤ 2 ^ 20) (hb : ∀ x ∈ l, x ≤ 4294967295) :
    sumNats l < 2 ^ 53 := by
  have h1 := sumNats_le_length_mul hb
  have h2 : l.length * 4294967295 ≤ 2 ^ 20 * 4294967295 := Nat.mul_le_mul_right _ hlen
  omega

theorem partial_sums_below_2_53 {l : List Nat} (hlen : l.length ≤ 2 ^ 20)
    (hb : ∀ x ∈ l, x ≤ 4294967295) (k : Nat) : sumNats (l.take k) < 2 ^ 53 := by
  have := sum_below_2_53 hlen hb
  have := sumNats_take_le l k
  omega

theorem powerdiff_partial_sums_below_2_53 {a b : List Signer} (hlen : a.length + b.length ≤ 2 ^ 20)
    (ha : ∀ s ∈ a, s.power ≤ 4294967295) (hb : ∀ s ∈ b, s.power ≤ 4294967295)
    (hnb : (b.map (·.addr)).Nodup) {keys : List String} (hp : keys.Perm (pdKeys a b)) (k : Nat) :
    sumNats ((keys.map (pdTerm a b)).take k) < 2 ^ 53 := by
  apply partial_sums_below_2_53
  · rw [List.length_map, hp.length_eq]
    exact Nat.le_trans (pdKeys_length_le a b) hlen
  · intro x hx
    obtain ⟨y, _, rfl⟩ := List.mem_map.mp hx
    exact pdTerm_le ha hb hnb y

/-! ### 4. Normalisation: `for address, power := range bridgeValidators { … power * M / total }` -/

theorem normalise_pointwise_perm_invariant (M : Nat) {l1 l2 : List (String × Nat)}
    (h : l1.Perm l2) (hn : (l1.map (·.1)).Nodup) :
    sumNats (l1.map (·.2)) = sumNats (l2.map (·.2)) ∧
    (normalise M l1).Perm (normalise M l2) ∧
    ∀ k, alGet (normalise M l1) k = alGet (normalise M l2) k := by
  refine ⟨sumNats_perm (h.map _), normalise_perm M h, fun k => ?_⟩
  exact alGet_perm (normalise_perm M h) (by rw [normalise_keys]; exact hn) k

theorem normalized_powers_order_independent (h : Hub) {st2 : List Validator}
    (hp : h.staking.Perm st2) (hn : ((h.staking.filter (·.bonded)).map (·.addr)).Nodup) :
    (∀ e, h.normalizedPowers = .error e → ({ h with staking := st2 } : Hub).normalizedPowers = .error e) ∧
    (∀ p1, h.normalizedPowers = .ok p1 →
      ∃ p2, ({ h with staking := st2 } : Hub).normalizedPowers = .ok p2 ∧ p1.Perm p2 ∧
        ∀ k, alGet p1 k = alGet p2 k) := by
  have hb : (h.staking.filter (·.bonded)).Perm (st2.filter (·.bonded)) := hp.filter _
  have hbm : ((h.staking.filter (·.bonded)).map fun v => (v.addr, v.power)).Perm
      ((st2.filter (·.bonded)).map fun v => (v.addr, v.power)) := hb.map _
  have hnm : (((h.staking.filter (·.bonded)).map fun v => (v.addr, v.power)).map (·.1)).Nodup := by
    rw [List.map_map]; exact hn
  obtain ⟨_, hperm, hget⟩ := normalise_pointwise_perm_invariant maxU16 hbm hnm
  rw [normalizedPowers_eq, normalizedPowers_eq]
  simp only
  rw [← hb.isEmpty_eq, ← sumNats_perm (hb.map (·.power))]
  exact ite_outcome _ _ (.panic "division by zero") _ _
    (fun p1 p2 => p1.Perm p2 ∧ ∀ k, alGet p1 k = alGet p2 k)
    ⟨List.Perm.refl _, fun _ => rfl⟩ ⟨hperm, hget⟩

/-- `CurrentSignerSet` on a reordered validator set: same error, or the same members in possibly
    another order — and the stored signer set (`sortSigners`, hence its checkpoint hash) is
    identical. -/
theorem current_signers_order_independent (h : Hub) (chain : String) {st2 : List Validator}
    (hp : h.staking.Perm st2) :
    (∀ e, h.currentSigners chain = .error e →
      ({ h with staking := st2 } : Hub).currentSigners chain = .error e) ∧
    (∀ s1, h.currentSigners chain = .ok s1 →
      ∃ s2, ({ h with staking := st2 } : Hub).currentSigners chain = .ok s2 ∧ s1.Perm s2 ∧
        sortSigners s1 = sortSigners s2) := by
  have hb : h.bondedByPower.Perm ({ h with staking := st2 } : Hub).bondedByPower :=
    (isort_perm _ _).trans ((hp.filter _).trans (isort_perm _ _).symm)
  have hr : (rawSigners (h.chain chain).valExt h.bondedByPower).Perm
      (rawSigners (h.chain chain).valExt ({ h with staking := st2 } : Hub).bondedByPower) :=
    hb.filterMap _
  have hc : ({ h with staking := st2 } : Hub).chain chain = h.chain chain := rfl
  rw [currentSigners_eq, currentSigners_eq, hc]
  simp only
  rw [← hr.isEmpty_eq, ← sumNats_perm (hr.map (·.power))]
  exact ite_outcome _ _ (.panic "division by zero") _ _
    (fun s1 s2 => s1.Perm s2 ∧ sortSigners s1 = sortSigners s2)
    ⟨List.Perm.refl _, rfl⟩
    ⟨normaliseSigners_perm hr, sortSigners_eq_of_perm (normaliseSigners_perm hr)⟩

/-! ### 5. Holders: `for hash, votes := range holdersTally { if votes > 43690 { …; return } }` -/

theorem holders_winner_unique {α : Type} (w : α → Nat) (p q : α → Bool) (l : List α)
    (hd : ∀ x ∈ l, ¬ (p x = true ∧ q x = true)) (htot : sumNats (l.map w) ≤ 65535) :
    ¬ (sumNats ((l.filter p).map w) > 43690 ∧ sumNats ((l.filter q).map w) > 43690) := by
  have := sum_filter_disjoint_le w p q l hd
  omega

def holdersLists (votes : List String) (claims : List (String × List (String × Int))) :
    List (String × List (String × Int)) :=
  votes.map fun v => (v, (alGet claims v).getD [])

/-- The keys of `holdersTally` (claim hashes, here canonical forms) in the model's enumeration. -/
def holdersCanons (votes : List String) (claims : List (String × List (String × Int))) :
    List (List String) :=
  ((holdersLists votes claims).map fun p => holdersCanon p.2).eraseDups

/-- `votes > math.MaxUint16*2/3` for one key of the tally. -/
def holdersWins (powers : List (String × Nat)) (votes : List String)
    (claims : List (String × List (String × Int))) (c : List String) : Bool :=
  decide (sumNats (((holdersLists votes claims).filter fun p => holdersCanon p.2 == c).map
    fun p => (alGet powers p.1).getD 0) > maxU16 * 2 / 3)

/-- The holders handler with the enumeration of the `holdersTally` map supplied from outside:
    the first key over the threshold wins (`return nil` inside the range loop). -/
def computeHoldersVia (powers : List (String × Nat)) (votes : List String)
    (claims : List (String × List (String × Int))) (enum : List (List String)) :
    Option (List (String × Int)) :=
  match enum.filter (holdersWins powers votes claims) with
  | [] => none
  | c :: _ => (((holdersLists votes claims).filter fun p => holdersCanon p.2 == c).getLast?).map (·.2)

theorem computeHoldersVia_model (powers : List (String × Nat)) (votes : List String)
    (claims : List (String × List (String × Int))) :
    computeHoldersVia powers votes claims (holdersCanons votes claims) =
      computeHolders powers votes claims := rfl

theorem holders_winners_agree {powers : List (String × Nat)} {votes : List String}
    {claims : List (String × List (String × Int))}
    (hsum : sumNats (votes.map fun v => (alGet powers v).getD 0) ≤ 65535) {c1 c2 : List String}
    (h1 : holdersWins powers votes claims c1 = true) (h2 : holdersWins powers votes claims c2 = true) :
    c1 = c2 := by
  apply Classical.byContradiction
  intro hne
  unfold holdersWins at h1 h2
  rw [decide_eq_true_eq, twoThirdsU16] at h1 h2
  have ht : sumNats ((holdersLists votes claims).map fun p => (alGet powers p.1).getD 0) ≤ 65535 := by
    unfold holdersLists; rw [List.map_map]; exact hsum
  exact holders_winner_unique (fun p => (alGet powers p.1).getD 0) (fun p => holdersCanon p.2 == c1)
    (fun p => holdersCanon p.2 == c2) (holdersLists votes claims)
    (fun x _ ⟨e1, e2⟩ => hne ((beq_iff_eq.mp e1).symm.trans (beq_iff_eq.mp e2))) ht ⟨h1, h2⟩

theorem holders_winners_length_le_one {powers : List (String × Nat)} {votes : List String}
    {claims : List (String × List (String × Int))}
    (hsum : sumNats (votes.map fun v => (alGet powers v).getD 0) ≤ 65535) :
    ((holdersCanons votes claims).filter (holdersWins powers votes claims)).length ≤ 1 := by
  apply length_le_one_of_all_eq ((nodup_eraseDups _).sublist List.filter_sublist)
  intro a ha b hb
  exact holders_winners_agree hsum (List.mem_filter.mp ha).2 (List.mem_filter.mp hb).2

/-- Whatever order Go enumerates `holdersTally` in, the handler stores what the model stores —
    given that the normalised powers of the voters sum to at most 65535. -/
theorem compute_holders_order_independent {powers : List (String × Nat)} {votes : List String}
    {claims : List (String × List (String × Int))} {enum : List (List String)}
    (hp : enum.Perm (holdersCanons votes claims))
    (hsum : sumNats (votes.map fun v => (alGet powers v).getD 0) ≤ 65535) :
    computeHoldersVia powers votes claims enum = computeHolders powers votes claims := by
  rw [← computeHoldersVia_model]
  unfold computeHoldersVia
  rw [filter_unique_perm_eq hp.symm (nodup_eraseDups _)
    (fun a _ b _ ha hb => holders_winners_agree hsum ha hb)]

/-- The hypothesis holds in every epoch: the powers come from `GetNormalizedValPowers`
    (`Σ ⌊pᵢ·65535/T⌋ ≤ 65535` over distinct bonded validators) and the voters are pairwise distinct
    (`OracleSt.WF`, an invariant of the oracle state). -/
theorem compute_holders_order_independent_epoch {h : Hub} {o : OracleSt} (hwf : o.WF)
    {powers : List (String × Nat)} (hok : h.normalizedPowers = .ok powers)
    {enum : List (List String)} (hp : enum.Perm (holdersCanons o.holderVotes o.holderClaims)) :
    computeHoldersVia powers o.holderVotes o.holderClaims enum =
      computeHolders powers o.holderVotes o.holderClaims :=
  compute_holders_order_independent hp (normalized_sum_le hok hwf.2.1)

/-! ### 6. Weighted median: values appended in vote order, then `sort.Slice` (not stable) -/

theorem expand_sorted_perm_invariant {l1 l2 : List (Int × Nat)} (h : l1.Perm l2) :
    expandWeighted (sortByValue l1) = expandWeighted (sortByValue l2) :=
  sorted_expansion_unique ((medianList_perm l1).trans (expandWeighted_perm h)) (medianList_sorted l1)

/-- `sort.Slice` is not stable, but any sorted arrangement of the appended values is the same
    list of values. -/
theorem any_sort_same_values {l : List (Int × Nat)} {e : List Int}
    (hp : e.Perm (expandWeighted l)) (hs : e.Pairwise (· ≤ ·)) :
    e = expandWeighted (sortByValue l) :=
  sorted_expansion_unique hp hs

theorem median_perm_invariant {l1 l2 : List (Int × Nat)} (h : l1.Perm l2) :
    weightedMedian l1 = weightedMedian l2 :=
  weightedMedian_congr (expandWeighted_perm h)

/-! ### 7. The regenerated site lists are exactly the sites covered above -/

/-- Map ranges: 1a, 1b, 5, 1c/6, 2, 4, 3. -/
theorem fact_det_map_ranges : Generated.det_map_ranges =
    "abci.go:createBatchTxs:coinIds abci.go:eventVoteRecordTally:attmap attestation_handler.go:Handle:holdersTally attestation_handler.go:Handle:pricesSum external_event_vote.go:getLastEventNonceByValidator:attmap keeper.go:GetNormalizedValPowers:bridgeValidators types.go:PowerDiff:powers" :=
  rfl

/-- Sorts.  Fed from a map range, so the input order is random and the comparator must leave no
    freedom: `createBatchTxs` (1a), `eventVoteRecordTally` (1b), `Handle:sort.Strings` (1c) — strict
    total orders on distinct keys; `Handle:sort.Slice` (6) — ties are equal values.
    Fed from a slice in deterministic order (store iterator or message field), where `sort.Slice`
    is a deterministic function of its input (Go's pdqsort draws no randomness — trusted):
    `types.go:Sort` (`ExternalSigners.Sort`; in addition a strict total order, see
    `signer_sort_order_independent`), `StabilizedClaimHash` (`holders_canon_order_independent`),
    `getDelegateKeys`/`getNonces` (genesis export, C15) and `UnsignedBatchTxs` (a gRPC query, not
    state; its comparator `BatchNonce <` is not total across tokens, so the order of ties is
    whatever pdqsort makes of the store order — the model's stable `isort` may differ there). -/
theorem fact_det_sorts : Generated.det_sorts =
    "abci.go:createBatchTxs:sort.Strings abci.go:eventVoteRecordTally:sort.Slice attestation_handler.go:Handle:sort.Slice attestation_handler.go:Handle:sort.Strings grpc_query.go:UnsignedBatchTxs:sort.Slice keeper.go:getDelegateKeys:sort.Slice keeper.go:getNonces:sort.Slice msgs.go:StabilizedClaimHash:sort.Strings types.go:Sort:sort.Slice" :=
  rfl

/-- The only floating-point computation in the state machine (section 3). -/
theorem fact_det_floats : Generated.det_floats = "types.go:PowerDiff" := rfl

/-- No goroutines in the modules. -/
theorem fact_det_goroutines : Generated.det_goroutines = "" := rfl

/-- No wall-clock time and no randomness in the modules. -/
theorem fact_det_time_rand : Generated.det_time_rand = "" := rfl

/-- The other sorts of the list, as model facts: the signer order and the holders canonical form
    depend only on the multiset of inputs. -/
theorem signer_sort_order_independent {l1 l2 : List Signer} (h : l1.Perm l2) :
    sortSigners l1 = sortSigners l2 :=
  sortSigners_eq_of_perm h

theorem holders_canon_order_independent {l1 l2 : List (String × Int)} (h : l1.Perm l2) :
    holdersCanon l1 = holdersCanon l2 :=
  isort_strLt_perm (h.map _)

theorem sites_covered :
    Generated.det_map_ranges =
      "abci.go:createBatchTxs:coinIds abci.go:eventVoteRecordTally:attmap attestation_handler.go:Handle:holdersTally attestation_handler.go:Handle:pricesSum external_event_vote.go:getLastEventNonceByValidator:attmap keeper.go:GetNormalizedValPowers:bridgeValidators types.go:PowerDiff:powers" ∧
    Generated.det_sorts =
      "abci.go:createBatchTxs:sort.Strings abci.go:eventVoteRecordTally:sort.Slice attestation_handler.go:Handle:sort.Slice attestation_handler.go:Handle:sort.Strings grpc_query.go:UnsignedBatchTxs:sort.Slice keeper.go:getDelegateKeys:sort.Slice keeper.go:getNonces:sort.Slice msgs.go:StabilizedClaimHash:sort.Strings types.go:Sort:sort.Slice" ∧
    Generated.det_floats = "types.go:PowerDiff" ∧ Generated.det_goroutines = "" ∧
    Generated.det_time_rand = "" :=
  ⟨rfl, rfl, rfl, rfl, rfl⟩

/-! ### 8. Non-vacuity -/

example : isort strLt ["bsc", "eth", "abc"] = ["abc", "bsc", "eth"] ∧
    isort strLt ["eth", "abc", "bsc"] = ["abc", "bsc", "eth"] := by decide +kernel

example : isort natLt [7, 5, 6] = [5, 6, 7] ∧ isort natLt [6, 7, 5] = [5, 6, 7] := by decide

/-- A comparator that is not total (compares only the first component) does depend on the
    enumeration order: the totality hypothesis of `sort_perm_invariant` is needed. -/
example : isort (fun (a b : Nat × Nat) => decide (a.1 < b.1)) [(1, 0), (1, 1)] ≠
    isort (fun (a b : Nat × Nat) => decide (a.1 < b.1)) [(1, 1), (1, 0)] := by decide

def exSte (id : Nat) (tok : String) : Ste :=
  { id := id, sender := "a", recipient := "r", tokenId := 1, extToken := tok, amount := 5, fee := 1,
    comm := 0, chain := "e", txHash := "x", createdAt := 0, refundAddr := "a", refundChain := "hub" }

def exHub : Hub :=
  { chains := ["e"], cs := [("e", { pool := [exSte 1 "T", exSte 2 "U", exSte 3 "T"], lastSteId := 3 })],
    height := 2 }

/-- Both enumerations of `{T, U}` satisfy the hypotheses of `create_batches_order_independent`,
    and the batches come out in the same order with the same nonces. -/
example : ((createBatchesVia exHub "e" ["U", "T"]).chain "e").batches.map (fun b => (b.extToken, b.nonce))
      = ((createBatchesVia exHub "e" ["T", "U"]).chain "e").batches.map (fun b => (b.extToken, b.nonce)) ∧
    (((createBatchesVia exHub "e" ["U", "T"]).chain "e").batches.map (·.nonce)).length = 2 := by
  decide +kernel

example : createBatchesVia exHub "e" ["U", "T"] = exHub.createBatches "e" :=
  create_batches_order_independent exHub "e" (by decide) (by
    intro x
    show x ∈ ["U", "T"] ↔ ∃ s ∈ [exSte 1 "T", exSte 2 "U", exSte 3 "T"], s.extToken = x
    simp only [List.mem_cons, List.not_mem_nil, or_false, exists_eq_or_imp, exists_eq_left, exSte]
    constructor
    · rintro (h | h) <;> simp [h]
    · rintro (h | h | h) <;> simp [← h])

/-- Grouping a nonce-sorted store by the sorted keys of the map gives the store order back … -/
example : (isort natLt [2, 1]).flatMap (fun n => [(1, "a"), (1, "b"), (2, "c")].filter (fun r => r.1 == n))
    = [(1, "a"), (1, "b"), (2, "c")] := by decide

/-- … which is not so for a list that is not sorted by nonce (the store-order hypothesis of
    `tally_order_independent` is used). -/
example : (isort natLt [2, 1]).flatMap (fun n => [(2, "c"), (1, "a")].filter (fun r => r.1 == n))
    ≠ [(2, "c"), (1, "a")] := by decide

def exRec (n : Nat) (acc : Bool) : VoteRec :=
  { nonce := n, hash := [], ev := .contractCall n [] 0 0, votes := [], accepted := acc }

example :
    [exRec 7 true, exRec 2 false, exRec 4 true].foldl
      (fun lo r => if r.accepted && r.nonce < lo then r.nonce else lo) 9 = 4 ∧
    [exRec 4 true, exRec 7 true, exRec 2 false].foldl
      (fun lo r => if r.accepted && r.nonce < lo then r.nonce else lo) 9 = 4 := by decide

example : ({ records := [exRec 7 true, exRec 4 true], lastObserved := 9 } : ChainSt).lastNonceOf "v" = 3 ∧
    ({ records := [exRec 4 true, exRec 7 true], lastObserved := 9 } : ChainSt).lastNonceOf "v" = 3 := by
  decide

example : powerDiffNum [⟨10, "x"⟩, ⟨20, "y"⟩] [⟨15, "y"⟩, ⟨7, "z"⟩] = 22 ∧
    powerDiffNum [⟨20, "y"⟩, ⟨10, "x"⟩] [⟨7, "z"⟩, ⟨15, "y"⟩] = 22 ∧
    sumNats (["z", "x", "y"].map (pdTerm [⟨10, "x"⟩, ⟨20, "y"⟩] [⟨15, "y"⟩, ⟨7, "z"⟩])) = 22 := by decide

example : ¬ (20 * 214748364 > maxU32) ∧ 20 * 214748365 > maxU32 := by decide

example : normalise 65535 [("a", 5), ("b", 3), ("c", 2)] = [("a", 32767), ("b", 19660), ("c", 13107)] ∧
    normalise 65535 [("c", 2), ("a", 5), ("b", 3)] = [("c", 13107), ("a", 32767), ("b", 19660)] ∧
    alGet (normalise 65535 [("c", 2), ("a", 5), ("b", 3)]) "b" = some 19660 := by decide

example :
    computeHoldersVia [("a", 32767), ("b", 19660), ("c", 13107)] ["a", "c", "b"]
      [("a", [("0xa", 1)]), ("b", [("0xa", 1)]), ("c", [("0xa", 2)])] [["0xa:1"], ["0xa:2"]]
      = some [("0xa", 1)] ∧
    computeHoldersVia [("a", 32767), ("b", 19660), ("c", 13107)] ["a", "c", "b"]
      [("a", [("0xa", 1)]), ("b", [("0xa", 1)]), ("c", [("0xa", 2)])] [["0xa:2"], ["0xa:1"]]
      = some [("0xa", 1)] := by decide

/-- The bound on the voters' total power is what makes the winner unique: with (impossible)
    powers summing to 100000 two keys are over the threshold and the enumeration order would
    decide. -/
example :
    computeHoldersVia [("a", 50000), ("c", 50000)] ["a", "c"]
      [("a", [("0xa", 1)]), ("c", [("0xa", 2)])] [["0xa:1"], ["0xa:2"]] = some [("0xa", 1)] ∧
    computeHoldersVia [("a", 50000), ("c", 50000)] ["a", "c"]
      [("a", [("0xa", 1)]), ("c", [("0xa", 2)])] [["0xa:2"], ["0xa:1"]] = some [("0xa", 2)] := by decide

example : weightedMedian [(5, 2), (1, 1), (9, 2), (5, 1)] = weightedMedian [(5, 1), (9, 2), (5, 2), (1, 1)] :=
  median_perm_invariant (by decide)

example : weightedMedian [(5, 2), (1, 1), (9, 2)] = some 5 := by
  rw [weightedMedian_congr (l' := [(1, 1), (5, 2), (9, 2)]) (by decide)]
  unfold weightedMedian
  rw [sortByValue_of_sorted (by decide)]
  decide

end Mhub2.C06
