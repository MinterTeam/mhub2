/-
  C05 — Block processing never panics: panic freedom of the model's begin block, end block and
  oracle end block, and the lock discipline of the expiry-refund loop as it stands in /repo.

  In the model a panic is the result `.error (.panic msg)`.  The panic sources reachable from
  `beginBlock` / `endBlock` / `oracleEndBlock` and the hypothesis that excludes each:

  * `tryRecord`, "attempting to process observed external event"  — `AcceptedBehind`
    (accepted vote records are never ahead of the last observed nonce; C03 proves it of every
    reachable vote bookkeeping).  The weaker `NoStaleAccepted` is NOT enough, see
    `end_block_noStale_insufficient`.
  * `cancelBatch`, "CANNOT CANCEL MINTER BATCH" / "nil batch"      — begin block skips "minter";
    `BatchKeysSorted` (every batch store is strictly ascending by store key, as a KV store is), or
    `BatchKeysDistinct` together with `h.chains.Nodup`.
  * `currentSigners`, "division by zero"                             — `StakingSane` (implied by
    `BondedPositive`).
  * `normalizedPowers`, "division by zero"                           — `OracleStakingSane` (implied by
    `BondedPositive`).
  * `cancelSte` in `refundExpired`, "negative coin amount"           — `EntriesNonneg`.
  * every panic of the event handler                                 — swallowed by `tryRecord`.

  The four state hypotheses together (`BlockInv`) are an invariant: begin block and end block
  preserve them (`begin_block_blockInv`, `end_block_blockInv`), and so does every other operation of
  the model, so they hold in every state reachable from genesis with sane staking updates
  (`reachable_blockInv`) and the model never answers "panic" to `begin`, `end` or `oend` there.
-/
import Props.C03
import Props.C05
import Lemmas.PanicA
namespace Mhub2.C05
open Mhub2 Mhub2.Lock

theorem begin_block_no_panic {h : Hub} (hb : BatchKeysSorted h) (hs : StakingSane h) :
    ∀ m, h.beginBlock ≠ .error (.panic m) :=
  (beginBlock_spec h hb hs).1

/-- The clean-up only moves transfers from batches back to pools, batch creation only moves them
    from pools to batches, and nothing touches the vote bookkeeping, the staking view or the
    registered keys. -/
theorem begin_block_preserves {h h' : Hub} (hb : BatchKeysSorted h) (hs : StakingSane h)
    (hok : h.beginBlock = .ok h') :
    BatchKeysSorted h' ∧ StakingSane h' ∧ (AcceptedBehind h → AcceptedBehind h') ∧
    (EntriesNonneg h → EntriesNonneg h') := by
  have hk := (beginBlock_spec h hb hs).2 h' hok
  exact ⟨hk.toLKeeps.batchKeysSorted hb, hk.toLKeeps.stakingSane hs, hk.acceptedBehind, hk.nonneg⟩

/-- Variant: distinct (not necessarily sorted) batch keys suffice when no chain is listed twice.
    `Hub.LedgerInv` with `Hub.Bounded` gives distinct keys (Lemmas/PanicB.lean). -/
theorem begin_block_no_panic_nodup {h : Hub} (hn : h.chains.Nodup) (hb : BatchKeysDistinct h)
    (hs : StakingSane h) : ∀ m, h.beginBlock ≠ .error (.panic m) :=
  beginBlock_spec_nodup h hn hb hs

/-- The time-out clean-up alone: on a chain other than "minter" whose batch keys are distinct, every
    batch it cancels is still in the store ("nil batch" is unreachable). -/
theorem cleanup_no_panic {h : Hub} {c : String} (hne : c ≠ "minter")
    (hd : KeysDistinct batchKey (h.chain c).batches) :
    ∀ m, h.cleanupTimedOutBatches c ≠ .error (.panic m) :=
  (cleanup_spec hne hd).1

theorem current_signers_no_panic {h : Hub} (hp : BondedPositive h) (c m : String) :
    h.currentSigners c ≠ .error (.panic m) :=
  hp.stakingSane.no_panic c m

theorem begin_block_no_panic_of_bonded {h : Hub} (hb : BatchKeysSorted h) (hp : BondedPositive h) :
    ∀ m, h.beginBlock ≠ .error (.panic m) :=
  begin_block_no_panic hb hp.stakingSane

/-- For either value of the `mintsFee` switch. -/
theorem end_block_no_panic {h : Hub} (mf : Bool) (ha : AcceptedBehind h) (hn : EntriesNonneg h) :
    ∀ m, h.endBlock mf ≠ .error (.panic m) :=
  (endBlock_spec h mf ⟨ha, hn⟩).1

/-- The handlers, which run inside end block and create pool entries (deposits to other chains, fee
    refunds, commission payouts), create only non-negative ones, and neither they nor the refunds
    touch the vote bookkeeping. -/
theorem end_block_preserves {h h' : Hub} (mf : Bool) (ha : AcceptedBehind h) (hn : EntriesNonneg h)
    (hok : h.endBlock mf = .ok h') :
    AcceptedBehind h' ∧ EntriesNonneg h' ∧ (BatchKeysSorted h → BatchKeysSorted h') ∧
    (StakingSane h → StakingSane h') := by
  have hi := (endBlock_spec h mf ⟨ha, hn⟩).2 h' hok
  have hl := endBlock_lkeeps hok
  exact ⟨hi.1, hi.2, hl.batchKeysSorted, hl.stakingSane⟩

/-- C03's invariant of reachable vote bookkeeping gives `AcceptedBehind`.  (`Reach` speaks about a
    chain state that holds nothing but votes, so it is applied to a state with the same records and
    counter.) -/
theorem acceptedBehind_of_reach {h : Hub}
    (hr : ∀ c, ∃ v, Reach v ∧ v.records = (h.chain c).records ∧ v.lastObserved = (h.chain c).lastObserved) :
    AcceptedBehind h := by
  intro c r hrm hacc
  obtain ⟨v, hv, e1, e2⟩ := hr c
  rw [← e1] at hrm
  rw [← e2]
  exact C03.accepted_le_last hv r hrm hacc

theorem end_block_no_panic_of_reach {h : Hub} (mf : Bool)
    (hr : ∀ c, ∃ v, Reach v ∧ v.records = (h.chain c).records ∧ v.lastObserved = (h.chain c).lastObserved)
    (hn : EntriesNonneg h) : ∀ m, h.endBlock mf ≠ .error (.panic m) :=
  end_block_no_panic mf (acceptedBehind_of_reach hr) hn

theorem acceptedBehind_noStale {h : Hub} (ha : AcceptedBehind h) : NoStaleAccepted h := ha.noStale

/-- The four hypotheses together are an invariant of block processing: begin block and end block
    neither panic from it nor leave it, so a block's begin-block/end-block pair (with nothing in
    between) cannot panic, block after block. -/
def BlockInv (h : Hub) : Prop :=
  BatchKeysSorted h ∧ StakingSane h ∧ AcceptedBehind h ∧ EntriesNonneg h

theorem begin_block_blockInv {h : Hub} (hi : BlockInv h) :
    (∀ m, h.beginBlock ≠ .error (.panic m)) ∧ ∀ h', h.beginBlock = .ok h' → BlockInv h' := by
  obtain ⟨hb, hs, ha, hn⟩ := hi
  refine ⟨begin_block_no_panic hb hs, fun h' hok => ?_⟩
  obtain ⟨b', s', a', n'⟩ := begin_block_preserves hb hs hok
  exact ⟨b', s', a' ha, n' hn⟩

theorem end_block_blockInv {h : Hub} (mf : Bool) (hi : BlockInv h) :
    (∀ m, h.endBlock mf ≠ .error (.panic m)) ∧ ∀ h', h.endBlock mf = .ok h' → BlockInv h' := by
  obtain ⟨hb, hs, ha, hn⟩ := hi
  refine ⟨end_block_no_panic mf ha hn, fun h' hok => ?_⟩
  obtain ⟨a', n', b', s'⟩ := end_block_preserves mf ha hn hok
  exact ⟨b' hb, s' hs, a', n'⟩

theorem block_no_panic {h : Hub} (mf : Bool) (hi : BlockInv h) :
    (∀ m, (h.beginBlock >>= fun h1 => h1.endBlock mf) ≠ .error (.panic m)) ∧
    ∀ h', (h.beginBlock >>= fun h1 => h1.endBlock mf) = .ok h' → BlockInv h' := by
  have hb := begin_block_blockInv hi
  exact Safe.bind (P := BlockInv) hb fun h1 hi1 => end_block_blockInv mf hi1

theorem tally_no_panic {h : Hub} (mf : Bool) (c : String) (ha : AcceptedBehind h) (hn : EntriesNonneg h) :
    ∀ m, h.tally mf c ≠ .error (.panic m) :=
  (tally_spec h mf c ⟨ha, hn⟩).1

/-- The refund value of a non-negative entry is non-negative, and a refund only removes an entry
    and possibly adds a non-negative one to another chain's pool. -/
theorem refund_expired_no_panic {h : Hub} (c : String) (hn : EntriesNonneg h) :
    ∀ m, h.refundExpired c ≠ .error (.panic m) :=
  (refundExpired_spec h c hn).1

/-- The only panic `TryEventVoteRecord` lets through is its own check; every panic of the event
    handler is swallowed. -/
theorem handler_panic_confined (h : Hub) (mf : Bool) (c : String) (r : VoteRec) (m : String)
    (e : h.tryRecord mf c r = .error (.panic m)) :
    m = "attempting to process observed external event" :=
  tryRecord_panic_msg e

/-- A malformed or malicious transfer, deposit or claim can at worst fail on its own: whatever the
    handler does with the event of a record (fail, panic, succeed), `TryEventVoteRecord` succeeds
    unless the record is "already accepted at the next nonce". -/
theorem handler_failure_confined (h : Hub) (mf : Bool) (c : String) (r : VoteRec)
    (hnp : ¬ (r.nonce = (h.chain c).lastObserved + 1 ∧ r.accepted = true)) :
    ∃ h', h.tryRecord mf c r = .ok h' := by
  obtain ⟨h', e, _⟩ := tryRecord_succeeds h mf c hnp
  exact ⟨h', e⟩

theorem oracle_end_block_no_panic {h : Hub} (hs : OracleStakingSane h) (o : OracleSt) (n a d : Int) :
    ∀ m, oracleEndBlock h o n a d ≠ .error (.panic m) :=
  (oracleEndBlock_safe hs o n a d).1

theorem oracle_end_block_no_panic_of_bonded {h : Hub} (hp : BondedPositive h) (o : OracleSt) (n a d : Int) :
    ∀ m, oracleEndBlock h o n a d ≠ .error (.panic m) :=
  oracle_end_block_no_panic hp.oracleSane o n a d

/-- Every state the model reaches from genesis — by any history of messages (sends, cancellations,
    batch requests, claims, confirmations, key delegations), begin and end blocks and environment
    changes, as long as staking updates give bonded validators positive power — satisfies the block
    invariant … -/
theorem reachable_blockInv (ops : List Op) (hops : ∀ op ∈ ops, SaneOp op) : BlockInv (runOps ops) := by
  obtain ⟨hb, hp, ha, hn⟩ := runOps_rinv ops hops
  exact ⟨hb, hp.stakingSane, ha, hn⟩

/-- … hence begin block, end block and the oracle's end block never panic in a reachable state:
    the model never answers "panic" to `begin`, `end` or `oend`. -/
theorem reachable_begin_block_no_panic (ops : List Op) (hops : ∀ op ∈ ops, SaneOp op) :
    ∀ m, (runOps ops).beginBlock ≠ .error (.panic m) :=
  (begin_block_blockInv (reachable_blockInv ops hops)).1

theorem reachable_end_block_no_panic (ops : List Op) (hops : ∀ op ∈ ops, SaneOp op) (mf : Bool) :
    ∀ m, (runOps ops).endBlock mf ≠ .error (.panic m) :=
  (end_block_blockInv mf (reachable_blockInv ops hops)).1

theorem reachable_oracle_end_block_no_panic (ops : List Op) (hops : ∀ op ∈ ops, SaneOp op)
    (o : OracleSt) (n a d : Int) : ∀ m, oracleEndBlock (runOps ops) o n a d ≠ .error (.panic m) :=
  oracle_end_block_no_panic_of_bonded (runOps_rinv ops hops).2.1 o n a d

theorem reachable_no_panic_output (ops : List Op) (hops : ∀ op ∈ ops, SaneOp op) :
    (apply (runOps ops) .beginBlock).2 ≠ "panic" ∧ (apply (runOps ops) .endBlock).2 ≠ "panic" := by
  constructor
  · intro e
    obtain ⟨m, hm⟩ := (outM_panic_iff _ _).mp e
    exact reachable_begin_block_no_panic ops hops m hm
  · intro e
    obtain ⟨m, hm⟩ := (outM_panic_iff _ _).mp e
    exact reachable_end_block_no_panic ops hops mintsFee m hm

/-! ### Lock discipline of the refund loop -/

theorem disc_cons {s s' : St} {op : SOp} {ops : List SOp} (ho : op = .openIter → s.iters = [])
    (hs : stepS s op = some s') (hd : Disciplined s' ops) : Disciplined s (op :: ops) := by
  unfold Disciplined
  rw [hs]
  exact ⟨ho, hd⟩

theorem stepS_openIter {s : St} (hi : s.iters = []) :
    stepS s .openIter = some ⟨0, s.sorted + s.dirty, [(s.nextId, s.sorted + s.dirty)], s.nextId + 1⟩ := by
  simp [stepS, St.readLocked, hi]

theorem disc_writes (w : Nat) (rest : List SOp) (s : St)
    (hrest : ∀ s', s'.iters = s.iters → s'.nextId = s.nextId → Disciplined s' rest) :
    Disciplined s (List.replicate w .write ++ rest) := by
  induction w generalizing s with
  | zero => exact hrest s rfl rfl
  | succ w ih => exact disc_cons (fun e => nomatch e) rfl (ih _ hrest)

theorem disc_nexts (p : Nat) (rest : List SOp) (s : St) (hz : ∀ it ∈ s.iters, it.1 = 0)
    (hrest : ∀ s', (∀ it ∈ s'.iters, it.1 = 0) → s'.nextId = s.nextId → Disciplined s' rest) :
    Disciplined s (List.replicate p (.next 0) ++ rest) := by
  induction p generalizing s with
  | zero => exact hrest s hz rfl
  | succ p ih =>
    refine disc_cons (fun e => nomatch e) rfl (ih _ ?_ hrest)
    intro it hit
    obtain ⟨it0, h0, rfl⟩ := List.mem_map.mp hit
    have := hz it0 h0
    split <;> simp [this]

theorem disc_refunds (r a : Nat) (s : St) (hi : s.iters = []) (hn : s.nextId = a + 1) :
    Disciplined s ((List.range' a r).flatMap fun k => [.openIter, .close (k + 1), .write]) := by
  induction r generalizing a s with
  | zero => simp [Disciplined]
  | succ r ih =>
    rw [List.range'_succ, List.flatMap_cons]
    refine disc_cons (fun _ => hi) (stepS_openIter hi) ?_
    refine disc_cons (fun e => nomatch e) rfl (disc_cons (fun e => nomatch e) rfl (ih (a + 1) _ ?_ ?_))
    · simp [hn]
    · exact congrArg (· + 1) hn

/-- The schedule of `refundExpiredTxs` (`refundTrace`) never opens an iterator while another one is
    open, for every number of dirty keys, pool size and number of refunds … -/
theorem refundTrace_disciplined (w p r : Nat) : Disciplined {} (refundTrace w p r) := by
  unfold refundTrace
  simp only [List.append_assoc, List.cons_append, List.nil_append]
  refine disc_writes w _ _ fun s1 hi1 hn1 => ?_
  refine disc_cons (fun _ => hi1) (stepS_openIter hi1) ?_
  have hn1 : s1.nextId = 0 := hn1
  refine disc_nexts p _ _ (by simp [hn1]) fun s2 hz2 hn2 => ?_
  refine disc_cons (fun e => nomatch e) rfl ?_
  rw [List.range_eq_range']
  refine disc_refunds r 0 _ ?_ (hn2.trans (congrArg (· + 1) hn1))
  show s2.iters.filter (fun it => it.1 != 0) = []
  rw [List.filter_eq_nil_iff]
  intro it hit
  simp [hz2 it hit]

/-- … hence it never blocks on the store lock. -/
theorem refundTrace_never_blocks (w p r : Nat) : (run {} (refundTrace w p r)).isSome = true :=
  no_nested_iterator_no_deadlock _ _ (refundTrace_disciplined w p r)

/-! ### `NoStaleAccepted` alone is not enough -/

/-- Vote bookkeeping that no run produces (C03): record 2 is accepted while the counter is at 0.
    No record at nonce 1 is accepted, so `NoStaleAccepted` holds; but once the tally has applied
    record 1, record 2 is "already accepted at the next nonce". -/
def badHub : Hub :=
  { chains := ["e"], staking := [⟨"v1", 10, true⟩],
    cs := [("e", { records := [⟨1, [1], .contractCall 1 [] 0 1, ["v1"], false⟩,
                               ⟨2, [2], .contractCall 2 [] 0 2, [], true⟩] })] }

theorem end_block_noStale_insufficient :
    NoStaleAccepted badHub ∧ EntriesNonneg badHub ∧
    ∃ m, badHub.endBlock false = .error (.panic m) := by
  refine ⟨fun c => ?_, fun c => ?_, ?_⟩
  · exact forall_chain (h := badHub)
      (P := fun c => ¬ ∃ r ∈ c.records, r.nonce = c.lastObserved + 1 ∧ r.accepted = true)
      (by decide) (by decide) c
  · exact forall_chain (h := badHub) (P := CNonneg) CNonneg.empty
      (by intro p hp; simp [badHub] at hp; subst hp; intro s hs; simp at hs) c
  · have h : (match badHub.endBlock false with | .error (.panic _) => true | _ => false) = true := by
      decide +kernel
    split at h
    · exact ⟨_, ‹_›⟩
    · cases h

/-! ### Non-vacuity -/

def exTx : Ste :=
  { id := 1, sender := "aa", recipient := "0xr", tokenId := 1, extToken := "T", amount := 7, fee := 2, comm := 1,
    chain := "ethereum", txHash := "t1", createdAt := 0, refundAddr := "Mxrefund", refundChain := "minter" }

/-- Chain "ethereum": two expired pool entries (refunded to a hub account, resp. re-sent to
    "minter"), one timed-out batch, event 1 applied, events 2–6 voted for by the only validator:
    a deposit, a transfer to "minter", the execution of the batch (commission payout, relayer
    reimbursement, fee refund), a deposit with a negative amount (its handler fails: confined), a
    transfer whose amount is less than its fee (fails: confined). -/
def exEth : ChainSt :=
  { pool := [{ exTx with id := 2, txHash := "t2", refundChain := "hub" }, { exTx with id := 3, txHash := "t3" }],
    batches := [⟨1, 100, 1, 1, "T", [exTx]⟩],
    lastSteId := 3, lastBatchNonce := 1, outSeq := 1, lastObserved := 1, obsExtHeight := 200, obsCosmosHeight := 1,
    records := [
      ⟨1, [1], .contractCall 1 [] 0 9, ["v1"], true⟩,
      ⟨2, [2], .sendToHub 2 "T" 5 "0xs" "bb" 10 "dep", ["v1"], false⟩,
      ⟨3, [3], .transfer 3 "T" 100 3 "0xs" "minter" "Mxrcv" 11 "tr", ["v1"], false⟩,
      ⟨4, [4], .batchExecuted "T" 4 1 12 "bx" 1 "Mxpayer", ["v1"], false⟩,
      ⟨5, [5], .sendToHub 5 "T" (-5) "0xs" "bb" 13 "neg", ["v1"], false⟩,
      ⟨6, [6], .transfer 6 "T" 1 3 "0xs" "minter" "Mxrcv" 14 "tr2", ["v1"], false⟩] }

def exHub : Hub :=
  { chains := ["hub", "ethereum", "minter"],
    cs := [("ethereum", exEth), ("minter", { valExt := [("v1", "0xab")] })],
    tokens := [⟨1, "hub", "ethereum", "T", 18, 0⟩, ⟨2, "hub", "minter", "M", 18, 0⟩],
    prices := [("eth", decOne), ("hub", decOne)],
    staking := [⟨"v1", 10, true⟩], time := 100000, height := 7 }

theorem exHub_acceptedBehind : AcceptedBehind exHub := fun c =>
  forall_chain (h := exHub)
    (P := fun c => ∀ r ∈ c.records, r.accepted = true → r.nonce ≤ c.lastObserved)
    (by decide) (by decide) c

theorem exHub_entriesNonneg : EntriesNonneg exHub := fun c =>
  forall_chain (h := exHub)
    (P := fun c => ∀ s ∈ c.pool ++ c.batches.flatMap (·.txs), 0 ≤ s.amount ∧ 0 ≤ s.fee ∧ 0 ≤ s.comm)
    (by decide) (by decide) c

theorem exHub_batchKeysSorted : BatchKeysSorted exHub := fun c =>
  forall_chain (h := exHub) (P := fun c => KeySorted batchKey c.batches)
    (by simp [KeySorted])
    (by intro p hp; simp [exHub] at hp; rcases hp with rfl | rfl <;> simp [KeySorted, exEth]) c

theorem exHub_bondedPositive : BondedPositive exHub := by
  unfold BondedPositive; decide

/-- All six pending events are consumed (two of them by failing handlers), both pool entries are
    refunded, and the pool of "minter" holds the five new transfers. -/
example : (match exHub.endBlock false with
    | .ok h' => (h'.chain "ethereum").lastObserved == 6 && (h'.chain "ethereum").pool.isEmpty
        && ((h'.chain "minter").pool.map Ste.id == [2, 3, 4, 5, 1]) && h'.balance "aa" "hub" == 10
    | _ => false) = true := by decide +kernel

/-- Begin block cancels the timed-out batch and creates the first signer set of "minter". -/
example : (match exHub.beginBlock with
    | .ok h' => (h'.chain "ethereum").batches.isEmpty && (h'.chain "ethereum").pool.length == 3
        && (h'.chain "minter").sets.length == 1
    | _ => false) = true := by decide +kernel

theorem exHub_blockInv : BlockInv exHub :=
  ⟨exHub_batchKeysSorted, exHub_bondedPositive.stakingSane, exHub_acceptedBehind, exHub_entriesNonneg⟩

example : ∀ m, exHub.endBlock false ≠ .error (.panic m) :=
  end_block_no_panic false exHub_acceptedBehind exHub_entriesNonneg
example : ∀ m, exHub.beginBlock ≠ .error (.panic m) :=
  begin_block_no_panic_of_bonded exHub_batchKeysSorted exHub_bondedPositive
example (o : OracleSt) : ∀ m, oracleEndBlock exHub o 2 0 3 ≠ .error (.panic m) :=
  oracle_end_block_no_panic_of_bonded exHub_bondedPositive o 2 0 3

/-- A history with sane staking: genesis set-up, a send, a batch request, two blocks. -/
def exOps : List Op :=
  [.chains ["hub", "ethereum", "minter"], .token ⟨1, "hub", "ethereum", "T", 18, 0⟩,
   .staking [⟨"v1", 10, true⟩, ⟨"v2", 0, false⟩], .fund "aa" "hub" 100, .block 2 10,
   .send "aa" "ethereum" "0xr" "hub" 50 1 "t", .reqBatch "ethereum" "hub", .beginBlock, .endBlock]
example : ∀ op ∈ exOps, SaneOp op := by
  intro op h
  simp only [exOps, List.mem_cons, List.not_mem_nil, or_false] at h
  rcases h with h | h | h | h | h | h | h | h | h <;> subst h <;> simp [SaneOp]
example : (((runOps exOps).chain "ethereum").batches.length == 1) = true := by decide +kernel

/-- The hypotheses exclude real panics: a validator set of total power 0 makes begin block and the
    oracle's epoch processing divide by zero, and a negative pool entry makes the expiry refund
    panic. -/
def zeroPowerHub : Hub :=
  { exHub with staking := [⟨"v1", 0, true⟩], height := 10 }
example : (match zeroPowerHub.beginBlock with
    | .error (.panic m) => m == "division by zero" | _ => false) = true := by decide +kernel
example : (match oracleEndBlock zeroPowerHub { priceVotes := ["v1"] } 0 0 3 with
    | .error (.panic m) => m == "division by zero" | _ => false) = true := by decide +kernel
def negEntryHub : Hub :=
  { exHub with cs := [("ethereum", { pool := [{ exTx with amount := -20 }] })] }
example : (match negEntryHub.refundExpired "ethereum" with
    | .error (.panic m) => m == "negative coin amount" | _ => false) = true := by decide +kernel

end Mhub2.C05
