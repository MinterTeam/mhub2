/-
  C01 — Vouchers never exceed locked collateral: the hub-side VALUE CONSERVATION LAW.

  For a denom, `Hub.value` (Mhub2/Value.lean) is the circulating supply plus everything still in
  flight towards external chains (pool and batches: amount + fee + commission), in a common unit
  of 10^-36.  Decimal conversions are floor divisions or exact multiplications, so no keeper
  function creates value: it only moves, is written off after an observed execution, or leaks
  downwards by rounding.  The only additions are deposits observed on an external chain (where
  the collateral was locked) and the test-harness `fund` operation.

  Standing hypotheses (`Hub.VInv`, Lemmas/Value.lean) of the state BEFORE the step:
    * `tok   : h.TokensOK`         decimals ≤ 36; (chain, ext id), (chain, denom), id name one token
    * `nodup : h.tokens.Nodup`     (NOT implied by `TokensOK`; without it `Hub.inflight` counts twice)
    * `led   : h.LedgerInv`        ids pairwise distinct per chain, batch nonces distinct
    * `ent   : h.EntInv`           every in-flight transfer names a token of its chain
                                   (⇒ `h.EntriesOK`), has non-negative parts, and a refund chain
                                   that is "" / "hub" / a chain carrying its denom; no negative
                                   balance; every batch holds transfers of its own token
  and `h'.Bounded` (id and nonce counters below 2^64) of the state AFTER the step.  All of them are
  preserved by every operation (`*_inv`, `vinv_reachable`).
-/
import Lemmas.Value
import Mhub2.Generated.Facts
namespace Mhub2.C01
open Mhub2

/-! ### Conversions never create value -/

/-- Hub units → external units (floor): worth at most what went in. -/
theorem toExt_value_le {d : Nat} (hd : d ≤ 36) (a : Int) : toExt d a * unitOf d ≤ a * unitOf 18 :=
  Mhub2.toExt_value_le hd a

/-- External units → hub units (floor): worth at most what went in. -/
theorem fromExt_value_le {d : Nat} (hd : d ≤ 36) (a : Int) : fromExt d a * unitOf 18 ≤ a * unitOf d :=
  Mhub2.fromExt_value_le hd a

theorem toExt_value_eq {d : Nat} (hd : d ≤ 36) (a : Int) (hex : 18 ≤ d ∨ pow10 (18 - d) ∣ a) :
    toExt d a * unitOf d = a * unitOf 18 := by
  by_cases h18 : 18 ≤ d
  · exact toExt_value_eq_of_ge h18 hd a
  · rcases hex with h | h
    · exact absurd h h18
    · exact toExt_value_eq_of_dvd (by omega) a h

theorem fromExt_value_eq {d : Nat} (hd : d ≤ 36) (a : Int) (hex : d ≤ 18 ∨ pow10 (d - 18) ∣ a) :
    fromExt d a * unitOf 18 = a * unitOf d := by
  by_cases h18 : d ≤ 18
  · exact fromExt_value_eq_of_le h18 a
  · rcases hex with h | h
    · exact absurd h h18
    · exact fromExt_value_eq_of_dvd (by omega) hd a h

/-- Rounding does lose value: 1 hub unit (10^-18) of a 6-decimals token converts to 0. -/
example : toExt 6 1 * unitOf 6 = 0 ∧ (1 : Int) * unitOf 18 = 1000000000000000000 := by decide

/-! ### The invariants are preserved -/

/-- `Hub.EntriesOK` of Mhub2/Value.lean is the token-naming part of `h.EntInv`. -/
theorem entriesOK_of_vinv {h : Hub} (hi : h.VInv) : h.EntriesOK := hi.ent.entriesOK

theorem inv_of_vrel {denom : String} {δ : Int} {h h' : Hub} (r : VRel denom δ h h') (hi : h.VInv)
    (hb : h'.Bounded) : h'.VInv := r.inv hi hb

theorem vinv_reachable (ops : List Op) (hb : (runOps ops).Bounded) (htk : (runOps ops).TokensOK)
    (hnd : (runOps ops).tokens.Nodup) : (runOps ops).VInv := Mhub2.vinv_reachable ops hb htk hnd

/-! ### `createSendToExternal` -/

theorem createSte_value_eq {h h' : Hub} {chain sender rcp dn tx rc ra : String} {a f c : Int} {id : Nat}
    (htk : h.TokensOK) (hnd : h.tokens.Nodup) (hi : h.LedgerInv) (hb : h'.Bounded)
    (hok : h.createSte chain sender rcp dn a f c tx rc ra = .ok (h', id)) (denom : String) :
    ∃ tok, h.tokenByDenom chain dn = some tok ∧
      h'.value denom = h.value denom - hubCredit dn denom (a + f + c) +
        (if dn = denom then (toExt tok.dec a + toExt tok.dec f + toExt tok.dec c) * unitOf tok.dec else 0) :=
  Mhub2.createSte_value_eq hok htk hnd hi hb denom

theorem createSte_value {h h' : Hub} {chain sender rcp dn tx rc ra : String} {a f c : Int} {id : Nat}
    (htk : h.TokensOK) (hnd : h.tokens.Nodup) (hi : h.LedgerInv) (hb : h'.Bounded)
    (hok : h.createSte chain sender rcp dn a f c tx rc ra = .ok (h', id)) (denom : String) :
    h'.value denom ≤ h.value denom :=
  createSte_value_le hok htk hnd hi hb denom

theorem createSte_inv {h h' : Hub} {chain sender rcp dn tx rc ra : String} {a f c : Int} {id : Nat}
    (hi : h.VInv) (hb : h'.Bounded) (hok : h.createSte chain sender rcp dn a f c tx rc ra = .ok (h', id))
    (ha : 0 ≤ a) (hf : 0 ≤ f) (hc : 0 ≤ c)
    (hrc : rc = "" ∨ rc = "hub" ∨ ∃ t' ∈ h.tokens, t'.chain = rc ∧ t'.denom = dn) : h'.VInv :=
  (createSte_vrel hok ha hf hc hrc "").inv hi hb

/-! ### Messages: send, cancel -/

theorem sendToExternal_value {h h' : Hub} {sender chain rcp dn tx : String} {amount fee : Int} {id : Nat}
    (hi : h.VInv) (hb : h'.Bounded) (hok : h.sendToExternal sender chain rcp dn amount fee tx = .ok (h', id))
    (denom : String) : h'.value denom ≤ h.value denom := by
  have := (sendToExternal_vrel hok denom).le hi hb; omega

theorem sendToExternal_inv {h h' : Hub} {sender chain rcp dn tx : String} {amount fee : Int} {id : Nat}
    (hi : h.VInv) (hb : h'.Bounded) (hok : h.sendToExternal sender chain rcp dn amount fee tx = .ok (h', id)) :
    h'.VInv := (sendToExternal_vrel hok "").inv hi hb

/-- A completed cancel: the refund `fromExt (amount + fee + comm)` is worth at most the entry it
    replaces, and a refund sent on to a foreign chain only loses value again. -/
theorem cancelSte_value {h h' : Hub} {chain sender : String} {id : Nat} (hi : h.VInv) (hb : h'.Bounded)
    (hok : h.cancelSte chain id sender = (h', none)) (denom : String) : h'.value denom ≤ h.value denom := by
  have := (cancelSte_none_vrel hok denom).le hi hb; omega

/-- A failing cancel: the state is unchanged, or it is the PARTIAL FAILURE on the path to a foreign
    refund chain: the refund was minted to the temporary account, `createSte` towards the refund
    chain failed, and both the minted coins and the pool entry stay.  Value then grows by exactly
    the refund.  (`Hub.cancelMsg` rolls this back; `Hub.refundExpired` commits it for `.fail`.) -/
theorem cancelSte_value_fail {h h' : Hub} {chain sender : String} {id : Nat} {e : Err}
    (hok : h.cancelSte chain id sender = (h', some e)) (denom : String) :
    h'.value denom = h.value denom ∨ ∃ s, s ∈ (h.chain chain).pool ∧ s.id = id ∧
      s.refundChain ≠ "" ∧ s.refundChain ≠ "hub" ∧
      h'.value denom = h.value denom + hubCredit (h.denomOfTokenId s.tokenId) denom (h.refundValue chain s) :=
  cancelSte_fail_value hok denom

/-- Under the standing hypotheses (which include: the refund chain of every in-flight transfer
    carries its denom, no balance is negative) the partial failure cannot mint: a cancel never
    increases value, whatever its outcome. -/
theorem cancelSte_value_any {h h' : Hub} {chain sender : String} {id : Nat} {oe : Option Err} (hi : h.VInv)
    (hb : h'.Bounded) (hok : h.cancelSte chain id sender = (h', oe)) (denom : String) :
    h'.value denom ≤ h.value denom := by
  have := (cancelSte_any_vrel hok denom).le hi hb; omega

theorem cancelSte_inv {h h' : Hub} {chain sender : String} {id : Nat} {oe : Option Err} (hi : h.VInv)
    (hb : h'.Bounded) (hok : h.cancelSte chain id sender = (h', oe)) : h'.VInv :=
  (cancelSte_any_vrel hok "").inv hi hb

theorem cancelMsg_value {h h' : Hub} {sender chain : String} {id : Nat} (hi : h.VInv) (hb : h'.Bounded)
    (hok : h.cancelMsg sender chain id = .ok h') (denom : String) : h'.value denom ≤ h.value denom := by
  have := (cancelMsg_vrel hok denom).le hi hb; omega

/-- FINDING (latent): the counter-example to `cancelSte_value` for failing outcomes when the refund
    chain does not carry the denom.  The hub below satisfies `TokensOK`, `EntriesOK`, `LedgerInv`,
    `Bounded` and has a duplicate-free token table; its only pool entry asks for a refund on chain
    "bsc", where denom "hub" has no token. -/
def pfSte : Ste := ⟨1, "a", "r", 1, "T", 10, 0, 0, "e", "x", 0, "q", "bsc"⟩

def pfHub : Hub :=
  { chains := ["e"], tokens := [⟨1, "hub", "e", "T", 18, 0⟩], time := 1000000,
    cs := [("e", { lastSteId := 1, pool := [pfSte] })] }

/-- The cancel fails with "token not found", keeps the pool entry AND the 10 freshly minted coins:
    value grows from 10·10^18 to 20·10^18 common units. -/
theorem cancelSte_partial_failure_mints :
    (match (pfHub.cancelSte "e" 1 "a").2 with | some (.fail "token not found") => true | _ => false) = true ∧
    ((pfHub.cancelSte "e" 1 "a").1.chain "e").pool.length = 1 ∧
    pfHub.value "hub" = 10 * unitOf 18 ∧
    (pfHub.cancelSte "e" 1 "a").1.value "hub" = 20 * unitOf 18 := by decide +kernel

/-- … and the expiry path (`refundExpired`, run by every end block) commits exactly that state. -/
theorem refundExpired_commits_partial_failure :
    (match pfHub.refundExpired "e" with
      | .ok h' => h'.value "hub" == 20 * unitOf 18 && (h'.chain "e").pool.length == 1
      | _ => false) = true := by decide +kernel

theorem pfHub_hyps : pfHub.TokensOK ∧ pfHub.tokens.Nodup ∧ pfHub.EntriesOK ∧ pfHub.LedgerInv ∧ pfHub.Bounded := by
  refine ⟨⟨?_, ?_, ?_, ?_⟩, by simp [pfHub], ?_, Hub.ledgerInv_of_all (by decide +kernel),
    Hub.bounded_of_all (by decide +kernel)⟩
  · intro t ht; simp [pfHub] at ht; subst ht; decide
  · intro a ha b hb _ _; simp [pfHub] at ha hb; rw [ha, hb]
  · intro a ha b hb _ _; simp [pfHub] at ha hb; rw [ha, hb]
  · intro a ha b hb _; simp [pfHub] at ha hb; rw [ha, hb]
  · intro c s hs
    by_cases hc : c = "e"
    · subst hc
      have : (pfHub.chain "e").entries = [pfSte] := rfl
      rw [this] at hs
      simp at hs; subst hs
      exact ⟨⟨1, "hub", "e", "T", 18, 0⟩, by simp [pfHub], rfl, rfl, rfl⟩
    · have : pfHub.chain c = {} := by
        simp [Hub.chain, pfHub, alGet, Ne.symm hc]
      rw [this] at hs; cases hs

/-! ### Batching and block begin only move transfers: value is EQUAL -/

theorem buildBatch_value {h : Hub} {chain tok : String} {n : Nat} (hi : h.VInv)
    (hb : (h.buildBatch chain tok n).1.Bounded) (denom : String) :
    (h.buildBatch chain tok n).1.value denom = h.value denom :=
  (buildBatch_veq h chain tok n).eq hi hb denom

theorem cancelBatch_value {h h' : Hub} {chain tok : String} {n : Nat} (hi : h.VInv) (hb : h'.Bounded)
    (hok : h.cancelBatch chain tok n = .ok h') (denom : String) : h'.value denom = h.value denom :=
  (cancelBatch_veq hok).eq hi hb denom

theorem requestBatch_value {h h' : Hub} {chain dn : String} {ob : Option Batch} (hi : h.VInv) (hb : h'.Bounded)
    (hok : h.requestBatch chain dn = .ok (h', ob)) (denom : String) : h'.value denom = h.value denom :=
  (requestBatch_veq hok).eq hi hb denom

theorem createBatches_value {h : Hub} {chain : String} (hi : h.VInv) (hb : (h.createBatches chain).Bounded)
    (denom : String) : (h.createBatches chain).value denom = h.value denom :=
  (createBatches_veq h chain).eq hi hb denom

theorem cleanupTimedOutBatches_value {h h' : Hub} {chain : String} (hi : h.VInv) (hb : h'.Bounded)
    (hok : h.cleanupTimedOutBatches chain = .ok h') (denom : String) : h'.value denom = h.value denom :=
  (cleanup_veq hok).eq hi hb denom

theorem beginBlock_value {h h' : Hub} (hi : h.VInv) (hb : h'.Bounded) (hok : h.beginBlock = .ok h')
    (denom : String) : h'.value denom = h.value denom :=
  (beginBlock_veq hok).eq hi hb denom

theorem beginBlock_inv {h h' : Hub} (hi : h.VInv) (hb : h'.Bounded) (hok : h.beginBlock = .ok h') : h'.VInv :=
  (beginBlock_veq hok).inv hi hb

/-! ### Deposits add at most the value locked -/

theorem handleSendToHub_value {h h' : Hub} {chain coin receiver tx : String} {amount : Int} {t : TokenInfo}
    (hi : h.VInv) (hb : h'.Bounded) (hok : h.handleSendToHub chain coin amount receiver tx = .ok h')
    (ht : h.tokenByExt chain coin = some t) (denom : String) :
    h'.value denom ≤ h.value denom + (if t.denom = denom then extValue t amount else 0) :=
  (handleSendToHub_vrel hok ht denom).le hi hb

theorem handleSendToHub_value_eq {h h' : Hub} {chain coin receiver tx : String} {amount : Int} {t : TokenInfo}
    (hok : h.handleSendToHub chain coin amount receiver tx = .ok h')
    (ht : h.tokenByExt chain coin = some t) (denom : String) :
    h'.value denom = h.value denom + hubCredit t.denom denom (fromExt t.dec amount) :=
  Mhub2.handleSendToHub_value_eq hok ht denom

/-- With the handler minting the locked amount only (`mintsFee = false`, see `fact_ttcMintsAmountPlusFee`):
    the transfer towards `rchain` burns from the temporary account what was just minted. -/
theorem handle_transfer_value {h h' : Hub} {chain coin sender rchain receiver tx : String} {n ht : Nat}
    {amount fee : Int} {t : TokenInfo} (hi : h.VInv) (hb : h'.Bounded)
    (hok : h.handle false chain (.transfer n coin amount fee sender rchain receiver ht tx) = .ok h')
    (htk : h.tokenByExt chain coin = some t) (denom : String) :
    h'.value denom ≤ h.value denom + (if t.denom = denom then extValue t amount else 0) :=
  (handle_transfer_vrel hok htk denom).le hi hb

/-- For any minting mode: at most the value of what the handler mints (`amount + fee` if it mints
    the fee too — which would NOT be covered by the `_amount` locked externally). -/
theorem handle_transfer_value_any {h h' : Hub} {mf : Bool} {chain coin sender rchain receiver tx : String}
    {n ht : Nat} {amount fee : Int} {t : TokenInfo} (hi : h.VInv) (hb : h'.Bounded)
    (hok : h.handle mf chain (.transfer n coin amount fee sender rchain receiver ht tx) = .ok h')
    (htk : h.tokenByExt chain coin = some t) (denom : String) :
    h'.value denom ≤ h.value denom + (if t.denom = denom then extValue t (ttcMintAmount mf amount fee) else 0) :=
  (handle_transfer_vrel hok htk denom).le hi hb

/-! ### An observed batch execution writes off what was paid out -/

/-- The entries of the batch (amount + fee + commission) leave the in-flight set; what is re-minted
    is at most `fromExt Σcomm + fromExt Σfee`, and every re-minted coin sent on to chain "minter"
    only loses value.  Older batches cancelled on the way only move. -/
theorem batchExecuted_value {h h' : Hub} {chain tok tx payer : String} {n : Nat} {fp : Int} {b : Batch}
    {t : TokenInfo} (hi : h.VInv) (hb : h'.Bounded)
    (hok : h.batchExecuted chain tok n tx fp payer = .ok h') (hfb : h.findBatch chain tok n = some b)
    (ht : h.tokenByExt chain b.extToken = some t) (denom : String) :
    h'.value denom ≤ h.value denom -
      (if t.denom = denom then extValue t (sumInts (b.txs.map (·.amount))) else 0) := by
  obtain ⟨t', ht', r⟩ := batchExecuted_vrel hok hfb denom
  rw [ht] at ht'
  injection ht' with ht'
  subst ht'
  have := r.le hi hb
  unfold extCredit at this
  omega

theorem batchExecuted_no_batch {h h' : Hub} {chain tok tx payer : String} {n : Nat} {fp : Int}
    (hok : h.batchExecuted chain tok n tx fp payer = .ok h') (hfb : h.findBatch chain tok n = none) : h' = h :=
  batchExecuted_none hok hfb

theorem batchExecuted_inv {h h' : Hub} {chain tok tx payer : String} {n : Nat} {fp : Int}
    (hi : h.VInv) (hb : h'.Bounded) (hok : h.batchExecuted chain tok n tx fp payer = .ok h') : h'.VInv := by
  have hh : h.handle false chain (.batchExecuted tok 0 n 0 tx fp payer) = .ok h' := by
    simp only [Hub.handle]; exact hok
  exact (handle_vrel hh "").inv hi hb

/-! ### Event handler, tally, expiry, end block -/

/-- Every event kind: at most the collateral locked by a deposit / transfer; nothing for an observed
    execution (see `batchExecuted_value` for the write-off), a contract call or a signer-set update. -/
theorem handle_value {h h' : Hub} {mf : Bool} {chain : String} {ev : Event} (hi : h.VInv) (hb : h'.Bounded)
    (hok : h.handle mf chain ev = .ok h') (denom : String) :
    h'.value denom ≤ h.value denom + h.depositCredit mf chain denom ev :=
  (handle_vrel hok denom).le hi hb

theorem handle_value_other {h h' : Hub} {mf : Bool} {chain : String} {ev : Event} (hi : h.VInv) (hb : h'.Bounded)
    (hok : h.handle mf chain ev = .ok h') (denom : String)
    (hev : (∃ n scope inv ht, ev = .contractCall n scope inv ht) ∨ (∃ n sn ht ms tx, ev = .signerSet n sn ht ms tx)) :
    h'.value denom = h.value denom := by
  rcases hev with ⟨n, scope, inv, ht, rfl⟩ | ⟨n, sn, ht, ms, tx, rfl⟩
  · simp only [Hub.handle, Except.ok.injEq] at hok; subst hok; rfl
  · simp only [Hub.handle, Except.ok.injEq] at hok; subst hok
    refine VEq.eq ?_ hi hb denom
    exact VEq.setChain rfl rfl rfl rfl

theorem handle_inv {h h' : Hub} {mf : Bool} {chain : String} {ev : Event} (hi : h.VInv) (hb : h'.Bounded)
    (hok : h.handle mf chain ev = .ok h') : h'.VInv := (handle_vrel hok "").inv hi hb

/-- One vote record: unless it is accepted AND its handler succeeds, value is untouched (a failing
    handler leaves only the vote bookkeeping). -/
theorem tryRecord_value {h h' : Hub} {mf : Bool} {chain : String} {r : VoteRec} (hi : h.VInv) (hb : h'.Bounded)
    (hok : h.tryRecord mf chain r = .ok h') (denom : String) :
    h'.value denom ≤ h.value denom ∨ h'.value denom ≤ h.value denom + h.depositCredit mf chain denom r.ev := by
  rcases tryRecord_vrel hok denom with r1 | r1
  · have := r1.le hi hb; exact .inl (by omega)
  · exact .inr (r1.le hi hb)

theorem tally_value {h h' : Hub} {mf : Bool} {chain : String} (hi : h.VInv) (hb : h'.Bounded)
    (hok : h.tally mf chain = .ok h') (denom : String) :
    ∃ applied : List VoteRec, applied.Sublist (h.chain chain).records ∧
      h'.value denom ≤ h.value denom + sumInts (applied.map fun r => h.depositCredit mf chain denom r.ev) := by
  obtain ⟨ap, hs, r⟩ := tally_vrel hok denom
  exact ⟨ap, hs, r.le hi hb⟩

/-- Expiry refunds never increase value (under the standing hypotheses the partial failure of
    `cancelSte_value_fail` cannot mint; without them see `refundExpired_commits_partial_failure`). -/
theorem refundExpired_value {h h' : Hub} {chain : String} (hi : h.VInv) (hb : h'.Bounded)
    (hok : h.refundExpired chain = .ok h') (denom : String) : h'.value denom ≤ h.value denom := by
  have := (refundExpired_vrel hok denom).le hi hb; omega

/-- End block: value grows by at most the collateral locked by the events its tallies applied. -/
theorem endBlock_value {h h' : Hub} {mf : Bool} (hi : h.VInv) (hb : h'.Bounded) (hok : h.endBlock mf = .ok h')
    (denom : String) :
    ∃ applied : List (String × VoteRec), (∀ p ∈ applied, p.1 ∈ h.chains) ∧
      h'.value denom ≤ h.value denom + sumInts (applied.map fun p => h.depositCredit mf p.1 denom p.2.ev) := by
  obtain ⟨ap, hs, r⟩ := endBlock_vrel hok denom
  exact ⟨ap, hs, r.le hi hb⟩

theorem endBlock_inv {h h' : Hub} {mf : Bool} (hi : h.VInv) (hb : h'.Bounded) (hok : h.endBlock mf = .ok h') :
    h'.VInv := by
  obtain ⟨_, _, r⟩ := endBlock_vrel hok ""
  exact r.inv hi hb

/-! ### One operation of a history -/

/-- Every operation other than `reset`, `token`, `fund` and `endBlock` (so also `chains`) never
    increases the value of any denom. -/
theorem value_step (h : Hub) (op : Op) (hi : h.VInv) (hb : (apply h op).1.Bounded) (hr : op ≠ .reset)
    (ht : ∀ t, op ≠ .token t) (hf : ∀ a d x, op ≠ .fund a d x) (he : op ≠ .endBlock) (denom : String) :
    ((apply h op).1).value denom ≤ h.value denom := by
  have := (apply_vrel h op hr ht hf he denom).le hi hb; omega

theorem inv_step (h : Hub) (op : Op) (hi : h.VInv) (hb : (apply h op).1.Bounded) (hr : op ≠ .reset)
    (ht : ∀ t, op ≠ .token t) : (apply h op).1.VInv := by
  obtain ⟨_, r⟩ := apply_vrel_any h op hr ht ""
  exact r.inv hi hb

theorem value_steps (h : Hub) (ops : List Op) (hi : h.VInv)
    (hb : (ops.foldl (fun h op => (apply h op).1) h).Bounded)
    (hall : ∀ op ∈ ops, op ≠ .reset ∧ (∀ t, op ≠ .token t) ∧ (∀ a d x, op ≠ .fund a d x) ∧ op ≠ .endBlock)
    (denom : String) : (ops.foldl (fun h op => (apply h op).1) h).value denom ≤ h.value denom := by
  have := (apply_list_vrel ops hall denom h).le hi hb; omega

theorem value_step_fund {h h' : Hub} {acc dn : String} {a : Int} (hm : h.mintTo acc dn a = .ok h') (denom : String) :
    (apply h (.fund acc dn a)).1 = h' ∧
    h'.value denom = h.value denom + (if dn = denom then a * unitOf 18 else 0) := by
  obtain ⟨e, _, hv⟩ := apply_fund_ok hm denom
  exact ⟨e, hv⟩

theorem value_step_fund_fails {h : Hub} {acc dn : String} {a : Int} {e : Err} (hm : h.mintTo acc dn a = .error e) :
    (apply h (.fund acc dn a)).1 = h := apply_fund_err hm

/-- `endBlock` (the model instantiated with the generated `mintsFee = false`) adds at most the
    collateral locked by the deposit / transfer events its tallies applied. -/
theorem value_step_endBlock (h : Hub) (hi : h.VInv) (hb : (apply h .endBlock).1.Bounded) (denom : String) :
    ∃ applied : List (String × VoteRec), (∀ p ∈ applied, p.1 ∈ h.chains) ∧
      (apply h .endBlock).1.value denom ≤
        h.value denom + sumInts (applied.map fun p => h.depositCredit false p.1 denom p.2.ev) := by
  obtain ⟨ap, hs, r⟩ := apply_endBlock_vrel h denom
  exact ⟨ap, hs, r.le hi hb⟩

theorem value_step_token {h : Hub} {t : TokenInfo} (hi : h.VInv) (htk : (apply h (.token t)).1.TokensOK)
    (hnd : (apply h (.token t)).1.tokens.Nodup) (denom : String) :
    (apply h (.token t)).1.value denom = h.value denom :=
  apply_token_value hi htk hnd denom

/-- CLOSED FORM, no deposits: along any history from genesis without `endBlock` (hence without
    observed external events) the value of a denom — vouchers in circulation plus everything in
    flight — never exceeds what the harness `fund` operations minted since the last `reset`.
    Hypotheses are on the FINAL state only. -/
theorem value_le_funds (denom : String) (ops : List Op) (hne : ∀ op ∈ ops, op ≠ .endBlock)
    (hb : (runOps ops).Bounded) (htk : (runOps ops).TokensOK) (hnd : (runOps ops).tokens.Nodup) :
    (runOps ops).value denom ≤ fundsOf denom ops 0 :=
  Mhub2.value_le_funds denom ops hne hb htk hnd

/-! ### Bridge lemmas: the source expressions behind the model -/

/-- Tie to the code: the token table is searched by exact equality (the model's `Hub.tokenByExt`, `Hub.tokenByDenom`,
    `Hub.tokenById`), so the id a claim carries and the id a batch is stored under are the same string whenever the claim has any
    effect. -/
theorem fact_token_lookup_conds : Generated.token_lookup_conds =
    "ExternalIdToTokenInfoLookup: info.ChainId == chainId.String() && info.ExternalTokenId == externalId | DenomToTokenInfoLookup: info.Denom == denom && info.ChainId == chainId.String() | TokenIdToTokenInfoLookup: info.Id == tokenId" := rfl
theorem fact_ttc_mint_hub : Generated.ttc_mint_hub = "event.Amount" := rfl
theorem fact_ttc_mint_other : Generated.ttc_mint_other = "event.Amount" := rfl
theorem fact_ttcMintsAmountPlusFee : Generated.ttcMintsAmountPlusFee = false := by decide
theorem fact_mintsFee : mintsFee = false := mintsFee_false
theorem fact_ttc_create_args : Generated.ttc_create_args =
    "ctx | types.ChainID(event.ReceiverChainId) | types.TempAddress | event.ExternalReceiver | amount | fee | commission | event.TxHash | chainId | event.Sender" := rfl
theorem fact_ttc_fee_guard : Generated.ttc_fee_guard = "amount.IsLT(fee)" := rfl
theorem fact_sol_transfer_lock : Generated.sol_transfer_lock = "msg.sender, address(this), _amount" := rfl
theorem fact_sol_transfer_event : Generated.sol_transfer_event =
    "_tokenContract, msg.sender, _destinationChain, _destination, _amount, _fee, state_lastEventNonce" := rfl

/-- `convertDecimals`: `amount * 10^to / 10^from` with `big.Int.Div` (Euclidean = floor for a positive divisor). -/
theorem fact_convert_body : Generated.convert_body =
    "{ if fromDecimals == toDecimals { return amount } to := big.NewInt(0).Exp(big.NewInt(10), big.NewInt(int64(toDecimals)), nil) from := big.NewInt(0).Exp(big.NewInt(10), big.NewInt(int64(fromDecimals)), nil) result := amount.BigInt() result.Mul(result, to) result.Div(result, from) return sdk.NewIntFromBigInt(result) }" := rfl
/-- `createSte`: burn `amount + fee + commission`, convert the three parts separately. -/
theorem fact_create_arith : Generated.create_arith =
    "totalAmount := amount.Add(fee).Add(valCommission) | convertedAmount := k.ConvertToExternalValue(ctx, chainId, tokenInfo.ExternalTokenId, amount.Amount) | convertedFee := k.ConvertToExternalValue(ctx, chainId, tokenInfo.ExternalTokenId, fee.Amount) | convertedValCommission := k.ConvertToExternalValue(ctx, chainId, tokenInfo.ExternalTokenId, valCommission.Amount)" := rfl
/-- `cancelSte`: refund `fromExternal (amount + fee + commission)` in the denom of the token id. -/
theorem fact_cancel_refund_arith : Generated.cancel_refund_arith =
    "send.Token.HubCoin(func(id uint64) (string, error) { info, err := k.TokenIdToTokenInfoLookup(ctx, id) if err != nil { return \"\", err } return info.Denom, nil }) | totalToRefund.Amount.Add(send.Fee.Amount).Add(send.ValCommission.Amount) | k.ConvertFromExternalValue(ctx, chainId, send.Token.ExternalTokenId, totalToRefund.Amount) | sdk.NewCoins(totalToRefund)" := rfl

/-! ### Non-vacuity: a 6-decimals token, a send and a cancel -/

deriving instance DecidableEq for TokenInfo

/-- Fund 5·10^18 hub units, send 1234567890123456789 + fee 1000000000000000001 towards a token
    with 6 decimals (external amounts 1234567 and 1000000: the last 12 digits are lost), cancel. -/
def exOps : List Op := [.chains ["e", "minter"], .token ⟨1, "hub", "e", "T", 6, 0⟩,
  .fund "a" "hub" 5000000000000000000,
  .send "a" "e" "r" "hub" 1234567890123456789 1000000000000000001 "x",
  .cancel "a" "e" 1]

example : (runOps (exOps.take 3)).value "hub" = 5000000000000000000 * unitOf 18 := by decide +kernel

/-- After the send: 2234567890123456790 hub units burnt, 2234567 external units in flight; the value
    dropped by the dust 890123456790 hub units. -/
example : (runOps (exOps.take 4)).supplyOf "hub" = 2765432109876543210 ∧
    (runOps (exOps.take 4)).inflight "hub" = 2234567 * unitOf 6 ∧
    (runOps (exOps.take 4)).value "hub" = 4999999109876543210 * unitOf 18 ∧
    (runOps (exOps.take 4)).value "hub" ≤ (runOps (exOps.take 3)).value "hub" := by decide +kernel

/-- After the cancel: the refund `fromExt 6 2234567` is exact, value is unchanged, nothing in flight. -/
example : (runOps exOps).supplyOf "hub" = 4999999109876543210 ∧ (runOps exOps).inflight "hub" = 0 ∧
    (runOps exOps).value "hub" = (runOps (exOps.take 4)).value "hub" := by decide +kernel

theorem exOps_vinv (n : Nat) (hn : n = 3 ∨ n = 4 ∨ n = 5) : (runOps (exOps.take n)).VInv := by
  rcases hn with rfl | rfl | rfl <;>
  exact vinv_reachable _ (Hub.bounded_of_all (by decide +kernel))
    ⟨by decide +kernel, by decide +kernel, by decide +kernel, by decide +kernel⟩ (by decide +kernel)

example : (runOps (exOps.take 4)).value "hub" ≤ (runOps (exOps.take 3)).value "hub" :=
  value_step (runOps (exOps.take 3)) (.send "a" "e" "r" "hub" 1234567890123456789 1000000000000000001 "x")
    (exOps_vinv 3 (.inl rfl)) (Hub.bounded_of_all (by decide +kernel)) (by simp) (by simp) (by simp) (by simp) "hub"

example : (runOps exOps).value "hub" ≤ (runOps (exOps.take 4)).value "hub" :=
  value_step (runOps (exOps.take 4)) (.cancel "a" "e" 1)
    (exOps_vinv 4 (.inr (.inl rfl))) (Hub.bounded_of_all (by decide +kernel)) (by simp) (by simp) (by simp) (by simp) "hub"

example : (runOps exOps).value "hub" ≤ 5000000000000000000 * unitOf 18 := by
  have := value_le_funds "hub" exOps
    (by intro op hop; simp [exOps] at hop; rcases hop with rfl | rfl | rfl | rfl | rfl <;> simp)
    (Hub.bounded_of_all (by decide +kernel))
    ⟨by decide +kernel, by decide +kernel, by decide +kernel, by decide +kernel⟩ (by decide +kernel)
  have e : fundsOf "hub" exOps 0 = 5000000000000000000 * unitOf 18 := by decide +kernel
  omega

/-- An observed execution: batch the transfer, then handle `batchExecuted`: the hub writes off the
    2234567 external units of the batch (amount 1234567 paid out; the fee 1000000 is not re-minted on a
    chain without base-coin price), so `batchExecuted_value`'s bound holds with room. -/
example : (match (apply (runOps (exOps.take 4)) (.reqBatch "e" "hub")).1.batchExecuted "e" "T" 1 "tx" 0 "p" with
    | .ok h' => h'.value "hub" == (runOps (exOps.take 4)).value "hub" - 2234567 * unitOf 6 &&
        decide (h'.value "hub" ≤ (runOps (exOps.take 4)).value "hub" - extValue ⟨1, "hub", "e", "T", 6, 0⟩ 1234567)
    | _ => false) = true := by decide +kernel

example : (match (runOps (exOps.take 3)).handleSendToHub "e" "T" 7 "b" "tx" with
    | .ok h' => h'.value "hub" == (runOps (exOps.take 3)).value "hub" + extValue ⟨1, "hub", "e", "T", 6, 0⟩ 7
    | _ => false) = true := by decide +kernel

end Mhub2.C01

