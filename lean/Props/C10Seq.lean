/-
  C10 — sequence numbers of stored outgoing txs are stable: a stored batch keeps the sequence number
  (and nonce) it was created with.  Validators sign the stored batch and the Minter multisig executes
  in sequence order, so "unique, strictly increasing and gap-free in creation order" has to hold of
  what is stored and not only of what is created.
-/
import Lemmas.Pool
import Props.C15
namespace Mhub2.C10S
open Mhub2

/-- Every operation other than `reset`, `beginBlock` and `reqBatch`: whatever batch is stored afterwards
    is, as a whole record (nonce, sequence, timeout, height, token, transfers), a batch that was stored
    before — nothing is re-stamped, re-ordered or rewritten in place. -/
theorem stored_batches_untouched (h : Hub) (op : Op) (hop : op.mayAdvanceCounters = false) (c : String) :
    ∀ x ∈ ((apply h op).1.chain c).batches, x ∈ (h.chain c).batches :=
  (quiet_apply h op hop c).2.2.2.2

/-- Building a batch: the stored batches of the chain afterwards are the new one — which carries the
    next sequence number — and, unchanged, those stored before; other chains are not touched at all. -/
theorem build_keeps_stored_batches {h h' : Hub} {chain tok : String} {maxN : Nat} {b : Batch}
    (hb : h.buildBatch chain tok maxN = (h', some b)) :
    (∀ x ∈ (h'.chain chain).batches, x = b ∨ x ∈ (h.chain chain).batches) ∧
    (∀ x ∈ (h.chain chain).batches, x ∈ (h'.chain chain).batches ∨ batchKey x = batchKey b) ∧
    b.seq = (h.chain chain).outSeq + 1 ∧
    (∀ c', chain ≠ c' → (h'.chain c').batches = (h.chain c').batches) := by
  obtain ⟨_, _, _, _, hs, _, _, _, hbs, _, hfr⟩ := buildBatch_some hb
  refine ⟨?_, ?_, hs, fun c' hc => by rw [hfr c' hc]⟩
  · intro x hx
    rw [hbs] at hx
    exact mem_insertByKey_cases batchKey hx
  · intro x hx
    rw [hbs]
    by_cases hk : batchKey x = batchKey b
    · exact Or.inr hk
    · exact Or.inl (mem_insertByKey_of_ne batchKey hx hk)

/-- A genesis round trip keeps both counters of every configured chain (so the next batch or signer set
    continues the numbering) and stores no batch: nothing can come back under a different number. -/
theorem roundtrip_keeps_counters (h : Hub) (c : String) (hc : c ∈ h.chains) :
    (h.exportImport.chain c).outSeq = (h.chain c).outSeq ∧
    (h.exportImport.chain c).lastBatchNonce = (h.chain c).lastBatchNonce ∧
    (h.exportImport.chain c).batches = [] := by
  rw [C15.chain_exportImport h c hc]
  exact ⟨rfl, rfl, rfl⟩

/-! ### A hand-written genesis that carries outgoing transactions

`InitGenesis` first sets the chain's sequence counter to the exported value and then stores every
listed outgoing transaction with `SetOutgoingTx`, which stamps it with the next sequence number.
`Mhub2.importStamps` is that stamping; the order of the two steps is `fact_genesis_import_order`.
(`ExportGenesis` never writes the section, so only a hand-written genesis carries it; the harness
operation `import_stamped` compares the real `InitGenesis` on such a genesis with `importStamps`.) -/

theorem importStamps_spec (s : Nat) (xs : List α) :
    (importStamps s xs).2 = s + xs.length ∧
    ((importStamps s xs).1.map (·.2)) = (List.range' (s + 1) xs.length) := by
  induction xs generalizing s with
  | nil => simp [importStamps]
  | cons x xs ih =>
    obtain ⟨h1, h2⟩ := ih (s + 1)
    simp only [importStamps, List.length_cons, List.map_cons, h1, h2]
    refine ⟨by omega, ?_⟩
    rw [List.range'_succ]

/-- The imported transactions get the consecutive numbers `s+1 … s+n`: pairwise distinct, all above the
    imported counter, and the counter ends on the last of them — the next batch or signer set gets a
    number none of them carries. -/
theorem import_stamps_fresh (s : Nat) (xs : List α) :
    ((importStamps s xs).1.map (·.2)).Nodup ∧
    (∀ n ∈ (importStamps s xs).1.map (·.2), s < n ∧ n ≤ (importStamps s xs).2) ∧
    (importStamps s xs).2 + 1 ∉ (importStamps s xs).1.map (·.2) := by
  obtain ⟨h1, h2⟩ := importStamps_spec s xs
  rw [h1, h2]
  refine ⟨List.nodup_range', fun n hn => ?_, fun hn => ?_⟩
  · have := List.mem_range'_1.mp hn; omega
  · have := List.mem_range'_1.mp hn; omega

example : importStamps 7 ["a", "b", "c"] = ([("a", 8), ("b", 9), ("c", 10)], 10) := by decide

theorem fact_genesis_import_order : Generated.genesis_import_order =
    "k.setParams | k.SetTokenInfos | k.setOutgoingSequence | k.setUnbatchedSendToExternal | k.setExternalEventVoteRecord | k.setLastObservedEventNonce | k.setLastEventNonceByValidator | k.SetOrchestratorValidatorAddress | k.setValidatorExternalAddress | k.setExternalOrchestratorAddress | k.SetOutgoingTx | k.SetExternalSignature | k.setLastEventNonceByValidator | k.setLastObservedSignerSetTx | k.setLastOutgoingBatchNonce | k.SetLastObservedExternalBlockHeight" := rfl

end Mhub2.C10S
