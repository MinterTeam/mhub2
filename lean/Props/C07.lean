/-
  C07 — Sign-bytes agree with the Ethereum contract.

  The digest validators sign for a signer set / batch is `keccak256 (abiEncode (goArgs…))`
  (types/outgoing_tx.go `GetCheckpoint`, through `packCall` which drops the 4-byte selector); the
  contract computes `keccak256(abi.encode(…))` in `makeCheckpoint` / `submitBatch`; likewise for a
  contract (logic) call and `submitLogicCall` (continued in Props/C07Call.lean).  We show the
  two ARGUMENT LISTS are equal for all inputs (so the encodings and digests are), that the method
  name constants agree byte for byte, that the encoding is injective on well-typed data (so
  different data gives a different pre-image), and that the Go signature check accepts exactly
  what the contract's `verifySig` accepts, for exactly one address.

  `keccak256` is never unfolded.  `ecrecover` is an abstract function `recover`.
-/
import Mhub2.Abi
import Mhub2.Generated.Facts
import Lemmas.Encoding
import Lemmas.AbiCall
namespace Mhub2.C07
open Mhub2 Mhub2.Enc


/-! ### 1. Method-name constants -/

theorem strBytes_checkpoint : strBytes "checkpoint" = [99, 104, 101, 99, 107, 112, 111, 105, 110, 116] := by
  decide +kernel

theorem strBytes_transactionBatch : strBytes "transactionBatch" =
    [116, 114, 97, 110, 115, 97, 99, 116, 105, 111, 110, 66, 97, 116, 99, 104] := by
  decide +kernel

/-- Hub2.sol: `bytes32 methodName = 0x636865636b706f696e74…00` is "checkpoint" right-padded to 32
    bytes, which is what the Go side copies into its `[32]uint8`. -/
theorem method_name_checkpoint :
    hexToBytes (strip0x Generated.sol_checkpoint_method) = padRight (strBytes "checkpoint") 32 := by
  unfold Generated.sol_checkpoint_method
  rw [strip0x_ofList_0x, hexToBytes_ofList, strBytes_checkpoint]
  decide +kernel

/-- The literal in `submitBatch` is "transactionBatch" right-padded to 32 bytes … -/
theorem method_name_batch :
    hexToBytes (strip0x "0x7472616e73616374696f6e426174636800000000000000000000000000000000")
      = padRight (strBytes "transactionBatch") 32 := by
  rw [strip0x_ofList_0x, hexToBytes_ofList, strBytes_transactionBatch]
  decide +kernel

/-- … and it is the second argument of the `abi.encode` call in the Solidity source. -/
theorem method_name_batch_in_source :
    Generated.sol_submit_batch_encode =
      "state_gravityId, " ++ "0x7472616e73616374696f6e426174636800000000000000000000000000000000"
        ++ ", _amounts, _destinations, _fees, _batchNonce, _tokenContract, _batchTimeout" := by
  -- compared as character lists: deciding `String` equality makes the kernel UTF-8-encode both sides
  rw [← String.ofList_append, ← String.ofList_append]
  apply congrArg String.ofList
  decide +kernel

/-- The literal in `submitLogicCall` is "logicCall" right-padded to 32 bytes, as the Go side copies it. -/
theorem method_name_call :
    hexToBytes (strip0x "0x6c6f67696343616c6c0000000000000000000000000000000000000000000000")
      = padRight (strBytes "logicCall") 32 := by
  rw [strip0x_ofList_0x, hexToBytes_ofList]
  decide +kernel

/-- … and it is the second argument of the `abi.encode` call of `submitLogicCall`. -/
theorem method_name_call_in_source :
    Generated.sol_logic_call_encode =
      "state_gravityId, " ++ "0x6c6f67696343616c6c0000000000000000000000000000000000000000000000"
        ++ ", _args.transferAmounts, _args.transferTokenContracts, _args.feeAmounts, _args.feeTokenContracts, _args.logicContractAddress, _args.payload, _args.timeOut, _args.invalidationId, _args.invalidationNonce" := by
  rw [← String.ofList_append, ← String.ofList_append]
  apply congrArg String.ofList
  decide +kernel

theorem method_name_lengths :
    (padRight (strBytes "checkpoint") 32).length = 32 ∧
    (padRight (strBytes "transactionBatch") 32).length = 32 :=
  ⟨padRight_length (by rw [strBytes_checkpoint]; decide),
   padRight_length (by rw [strBytes_transactionBatch]; decide)⟩

/-! ### 2. The argument lists agree, hence the encodings and the digests -/

/-- The arguments the hub packs for a signer set are the arguments `makeCheckpoint` encodes:
    same order, same types, same values. -/
theorem checkpoint_args_agree_signerset (g : Bytes) (nonce : Nat) (members : List Signer) :
    goArgsSignerSet g nonce members =
      solArgsSignerSet g (padRight (strBytes "checkpoint") 32) nonce
        (members.map fun m => hexToBytes (strip0x m.addr)) (members.map (·.power)) := rfl

theorem checkpoint_args_agree_batch (g : Bytes) (b : BatchView) :
    goArgsBatch g b =
      solArgsBatch g (padRight (strBytes "transactionBatch") 32) b.amounts b.destinations b.fees
        b.nonce b.token b.timeout := rfl

theorem checkpoint_encoding_agrees_signerset (g : Bytes) (nonce : Nat) (members : List Signer) :
    abiEncode (goArgsSignerSet g nonce members) =
      abiEncode (solArgsSignerSet g (hexToBytes (strip0x Generated.sol_checkpoint_method)) nonce
        (members.map fun m => hexToBytes (strip0x m.addr)) (members.map (·.power))) := by
  rw [method_name_checkpoint, checkpoint_args_agree_signerset]

theorem checkpoint_encoding_agrees_batch (g : Bytes) (b : BatchView) :
    abiEncode (goArgsBatch g b) =
      abiEncode (solArgsBatch g
        (hexToBytes (strip0x "0x7472616e73616374696f6e426174636800000000000000000000000000000000"))
        b.amounts b.destinations b.fees b.nonce b.token b.timeout) := by
  rw [method_name_batch, checkpoint_args_agree_batch]

/-- For every gravity id, nonce and member list: the digest the hub asks validators to sign is
    the keccak digest of what the contract encodes with the constant from its own source. -/
theorem checkpoint_digest_agrees_signerset (gravityId : String) (nonce : Nat) (members : List Signer) :
    checkpointSignerSet gravityId nonce members =
      (fixed32 gravityId).map fun g =>
        keccak256 (abiEncode (solArgsSignerSet g (hexToBytes (strip0x Generated.sol_checkpoint_method))
          nonce (members.map fun m => hexToBytes (strip0x m.addr)) (members.map (·.power)))) := by
  unfold checkpointSignerSet
  simp only [checkpoint_encoding_agrees_signerset]

theorem checkpoint_digest_agrees_batch (gravityId : String) (b : BatchView) :
    checkpointBatch gravityId b =
      (fixed32 gravityId).map fun g =>
        keccak256 (abiEncode (solArgsBatch g
          (hexToBytes (strip0x "0x7472616e73616374696f6e426174636800000000000000000000000000000000"))
          b.amounts b.destinations b.fees b.nonce b.token b.timeout)) := by
  unfold checkpointBatch
  simp only [checkpoint_encoding_agrees_batch]

/-- Contract (logic) calls: the hub packs what `submitLogicCall` encodes, with the invalidation scope as the
    `bytes32` the contract is handed: its first 32 bytes, right padded (`scope32`). -/
theorem checkpoint_args_agree_call (g : Bytes) (c : CallView) :
    goArgsCall g c =
      solArgsCall g (padRight (strBytes "logicCall") 32) c.transferAmounts c.transferTokens c.feeAmounts
        c.feeTokens c.logicContract c.payload c.timeout (scope32 c.invalidationScope) c.invalidationNonce := rfl

theorem checkpoint_encoding_agrees_call (g : Bytes) (c : CallView) :
    abiEncode (goArgsCall g c) =
      abiEncode (solArgsCall g
        (hexToBytes (strip0x "0x6c6f67696343616c6c0000000000000000000000000000000000000000000000"))
        c.transferAmounts c.transferTokens c.feeAmounts c.feeTokens c.logicContract c.payload c.timeout
        (scope32 c.invalidationScope) c.invalidationNonce) := by
  rw [method_name_call, checkpoint_args_agree_call]

theorem checkpoint_digest_agrees_call (gravityId : String) (c : CallView) :
    checkpointCall gravityId c =
      (fixed32 gravityId).map fun g =>
        keccak256 (abiEncode (solArgsCall g
          (hexToBytes (strip0x "0x6c6f67696343616c6c0000000000000000000000000000000000000000000000"))
          c.transferAmounts c.transferTokens c.feeAmounts c.feeTokens c.logicContract c.payload c.timeout
          (scope32 c.invalidationScope) c.invalidationNonce)) := by
  unfold checkpointCall
  simp only [checkpoint_encoding_agrees_call]

theorem scope32_length (s : Bytes) : (scope32 s).length = 32 := scope32_len s

theorem scope32_full (s : Bytes) (h : s.length = 32) : scope32 s = s := scope32_of_len32 h

/-- A scope shorter than 32 bytes is RIGHT padded: it is a prefix of the id (Solidity `bytes32("…")`,
    ethers `formatBytes32String`), never shifted to the low-order end. -/
theorem scope32_prefix (s : Bytes) (h : s.length ≤ 32) : (scope32 s).take s.length = s := by
  unfold scope32 padRight
  rw [List.take_of_length_le h]
  simp

theorem fixed32_length {s : String} {g : Bytes} (h : fixed32 s = some g) : g.length = 32 := by
  unfold fixed32 at h
  simp only at h
  split at h
  · rename_i hle
    injection h with h
    rw [← h]; exact padRight_length hle
  · cases h


/-! ### 3. Structure of `abi.encode`: length and injectivity -/

theorem abiEncode_length {args : List AbiVal} (h : ∀ v ∈ args, AbiWF v) :
    (abiEncode args).length = 32 * args.length + tailsLen args ∧ tailsLen args % 32 = 0 ∧
      (abiEncode args).length % 32 = 0 :=
  have h1 := Enc.abiEncode_length h
  have h2 := tailsLen_mod args h
  ⟨h1, h2, by omega⟩

/-- General injectivity: two well-typed argument lists of the same Solidity signature with the
    same encoding are equal (see `Enc.abiEncode_inj` for why `AbiWF` bounds array lengths). -/
theorem abiEncode_injective {a1 a2 : List AbiVal} (hk : a1.map abiKind = a2.map abiKind)
    (h1 : ∀ v ∈ a1, AbiWF v) (h2 : ∀ v ∈ a2, AbiWF v) (h : abiEncode a1 = abiEncode a2) : a1 = a2 :=
  abiEncode_inj hk h1 h2 h

/-- Why the bounds are hypotheses: a head or length word holds its value modulo `2^256`. -/
theorem word_wraps : word (2 ^ 256) = word 0 ∧ word (2 ^ 256 + 5) = word 5 :=
  ⟨beBytes_of_mod (by decide), beBytes_of_mod (by decide)⟩

theorem encode_signerset_injective {g1 g2 m1 m2 : Bytes} {n1 n2 : Nat} {vs1 vs2 : List Bytes}
    {ps1 ps2 : List Nat}
    (hg1 : g1.length = 32) (hg2 : g2.length = 32) (hm1 : m1.length = 32) (hm2 : m2.length = 32)
    (hn1 : n1 < 2 ^ 256) (hn2 : n2 < 2 ^ 256)
    (hv1 : ∀ v ∈ vs1, v.length = 20) (hv2 : ∀ v ∈ vs2, v.length = 20)
    (hp1 : ∀ p ∈ ps1, p < 2 ^ 256) (hp2 : ∀ p ∈ ps2, p < 2 ^ 256)
    (hlv1 : vs1.length < 2 ^ 256) (hlv2 : vs2.length < 2 ^ 256)
    (hlp1 : ps1.length < 2 ^ 256) (hlp2 : ps2.length < 2 ^ 256)
    (h : abiEncode (solArgsSignerSet g1 m1 n1 vs1 ps1) = abiEncode (solArgsSignerSet g2 m2 n2 vs2 ps2)) :
    g1 = g2 ∧ m1 = m2 ∧ n1 = n2 ∧ vs1 = vs2 ∧ ps1 = ps2 := by
  have := abiEncode_inj (a1 := solArgsSignerSet g1 m1 n1 vs1 ps1) (a2 := solArgsSignerSet g2 m2 n2 vs2 ps2)
    rfl
    (wf_solArgsSignerSet hg1 hm1 hn1 hlv1 hv1 hlp1 hp1) (wf_solArgsSignerSet hg2 hm2 hn2 hlv2 hv2 hlp2 hp2)
    h
  simp only [solArgsSignerSet, List.cons.injEq, AbiVal.bytes32.injEq, AbiVal.uint.injEq,
    AbiVal.addrArr.injEq, AbiVal.uintArr.injEq, and_true] at this
  exact this

theorem encode_batch_injective {g1 g2 m1 m2 : Bytes} {am1 am2 : List Nat} {ds1 ds2 : List Bytes}
    {fs1 fs2 : List Nat} {n1 n2 : Nat} {tk1 tk2 : Bytes} {to1 to2 : Nat}
    (hg1 : g1.length = 32) (hg2 : g2.length = 32) (hm1 : m1.length = 32) (hm2 : m2.length = 32)
    (ha1 : ∀ a ∈ am1, a < 2 ^ 256) (ha2 : ∀ a ∈ am2, a < 2 ^ 256)
    (hd1 : ∀ d ∈ ds1, d.length = 20) (hd2 : ∀ d ∈ ds2, d.length = 20)
    (hf1 : ∀ f ∈ fs1, f < 2 ^ 256) (hf2 : ∀ f ∈ fs2, f < 2 ^ 256)
    (hla1 : am1.length < 2 ^ 256) (hla2 : am2.length < 2 ^ 256)
    (hld1 : ds1.length < 2 ^ 256) (hld2 : ds2.length < 2 ^ 256)
    (hlf1 : fs1.length < 2 ^ 256) (hlf2 : fs2.length < 2 ^ 256)
    (hn1 : n1 < 2 ^ 256) (hn2 : n2 < 2 ^ 256) (ht1 : tk1.length = 20) (ht2 : tk2.length = 20)
    (hto1 : to1 < 2 ^ 256) (hto2 : to2 < 2 ^ 256)
    (h : abiEncode (solArgsBatch g1 m1 am1 ds1 fs1 n1 tk1 to1)
        = abiEncode (solArgsBatch g2 m2 am2 ds2 fs2 n2 tk2 to2)) :
    g1 = g2 ∧ m1 = m2 ∧ am1 = am2 ∧ ds1 = ds2 ∧ fs1 = fs2 ∧ n1 = n2 ∧ tk1 = tk2 ∧ to1 = to2 := by
  have := abiEncode_inj (a1 := solArgsBatch g1 m1 am1 ds1 fs1 n1 tk1 to1)
    (a2 := solArgsBatch g2 m2 am2 ds2 fs2 n2 tk2 to2) rfl
    (wf_solArgsBatch hg1 hm1 hla1 ha1 hld1 hd1 hlf1 hf1 hn1 ht1 hto1)
    (wf_solArgsBatch hg2 hm2 hla2 ha2 hld2 hd2 hlf2 hf2 hn2 ht2 hto2)
    h
  simp only [solArgsBatch, List.cons.injEq, AbiVal.bytes32.injEq, AbiVal.uint.injEq,
    AbiVal.addrArr.injEq, AbiVal.uintArr.injEq, AbiVal.address.injEq, and_true] at this
  exact this

/-- A signer-set pre-image and a batch pre-image never coincide when the method names differ:
    the second word of either encoding is its method name. -/
theorem encode_signerset_ne_batch {g1 g2 m1 m2 : Bytes} {n1 : Nat} {vs1 : List Bytes} {ps1 : List Nat}
    {am ds fs n tk to}
    (hg1 : g1.length = 32) (hg2 : g2.length = 32) (hm1 : m1.length = 32) (hm2 : m2.length = 32)
    (hne : m1 ≠ m2) :
    abiEncode (solArgsSignerSet g1 m1 n1 vs1 ps1) ≠ abiEncode (solArgsBatch g2 m2 am ds fs n tk to) := by
  intro h
  have e1 : abiEncode (solArgsSignerSet g1 m1 n1 vs1 ps1) = _ := abiEncode_two_bytes32 hg1 hm1 _
  have e2 : abiEncode (solArgsBatch g2 m2 am ds fs n tk to) = _ := abiEncode_two_bytes32 hg2 hm2 _
  rw [e1, e2] at h
  obtain ⟨_, h⟩ := List.append_inj h (hg1.trans hg2.symm)
  obtain ⟨h, _⟩ := List.append_inj h (hm1.trans hm2.symm)
  exact hne h

/-- The same on the Go side, for signer sets as the hub stores them (members in the given order;
    powers are `uint64`, so any bound up to `2^256` holds): the gravity id, the nonce, the member
    address bytes and the member powers are all determined by the pre-image. -/
theorem go_signerset_preimage_injective {g1 g2 : Bytes} {n1 n2 : Nat} {ms1 ms2 : List Signer}
    (hg1 : g1.length = 32) (hg2 : g2.length = 32) (hn1 : n1 < 2 ^ 256) (hn2 : n2 < 2 ^ 256)
    (hm1 : ∀ m ∈ ms1, (hexToBytes (strip0x m.addr)).length = 20 ∧ m.power < 2 ^ 256)
    (hm2 : ∀ m ∈ ms2, (hexToBytes (strip0x m.addr)).length = 20 ∧ m.power < 2 ^ 256)
    (hl1 : ms1.length < 2 ^ 256) (hl2 : ms2.length < 2 ^ 256)
    (h : abiEncode (goArgsSignerSet g1 n1 ms1) = abiEncode (goArgsSignerSet g2 n2 ms2)) :
    g1 = g2 ∧ n1 = n2 ∧
      ms1.map (fun m => hexToBytes (strip0x m.addr)) = ms2.map (fun m => hexToBytes (strip0x m.addr)) ∧
      ms1.map (·.power) = ms2.map (·.power) := by
  rw [checkpoint_args_agree_signerset, checkpoint_args_agree_signerset] at h
  have := encode_signerset_injective hg1 hg2 method_name_lengths.1 method_name_lengths.1 hn1 hn2
    (List.forall_mem_map.mpr fun m hm => (hm1 m hm).1) (List.forall_mem_map.mpr fun m hm => (hm2 m hm).1)
    (List.forall_mem_map.mpr fun m hm => (hm1 m hm).2) (List.forall_mem_map.mpr fun m hm => (hm2 m hm).2)
    (by rwa [List.length_map]) (by rwa [List.length_map]) (by rwa [List.length_map])
    (by rwa [List.length_map]) h
  exact ⟨this.1, this.2.2.1, this.2.2.2.1, this.2.2.2.2⟩

theorem go_batch_preimage_injective {g1 g2 : Bytes} {b1 b2 : BatchView}
    (hg1 : g1.length = 32) (hg2 : g2.length = 32) (hb1 : BatchViewWF b1) (hb2 : BatchViewWF b2)
    (h : abiEncode (goArgsBatch g1 b1) = abiEncode (goArgsBatch g2 b2)) : g1 = g2 ∧ b1 = b2 := by
  rw [checkpoint_args_agree_batch, checkpoint_args_agree_batch] at h
  have := encode_batch_injective hg1 hg2 method_name_lengths.2 method_name_lengths.2
    hb1.amounts_lt hb2.amounts_lt hb1.dests_len hb2.dests_len hb1.fees_lt hb2.fees_lt
    hb1.amounts_short hb2.amounts_short hb1.dests_short hb2.dests_short hb1.fees_short hb2.fees_short
    hb1.nonce_lt hb2.nonce_lt hb1.token_len hb2.token_len hb1.timeout_lt hb2.timeout_lt h
  obtain ⟨e1, _, e3, e4, e5, e6, e7, e8⟩ := this
  refine ⟨e1, ?_⟩
  cases b1; cases b2
  simp only at e3 e4 e5 e6 e7 e8
  simp only [BatchView.mk.injEq]
  exact ⟨e3, e4, e5, e6, e7, e8⟩

/-- The two kinds of checkpoint can never be confused: "checkpoint" ≠ "transactionBatch". -/
theorem go_signerset_ne_batch {g1 g2 : Bytes} (hg1 : g1.length = 32) (hg2 : g2.length = 32)
    (n : Nat) (ms : List Signer) (b : BatchView) :
    abiEncode (goArgsSignerSet g1 n ms) ≠ abiEncode (goArgsBatch g2 b) := by
  rw [checkpoint_args_agree_signerset, checkpoint_args_agree_batch]
  exact encode_signerset_ne_batch hg1 hg2 method_name_lengths.1 method_name_lengths.2
    (by rw [strBytes_checkpoint, strBytes_transactionBatch]; decide)


/-! ### 4. The signature check -/

theorem signer_unique {r : Bytes → Bytes → Option Bytes} {d s a a' : Bytes}
    (h : validateSig r d s a = true) (h' : validateSig r d s a' = true) : a = a' := by
  simp only [validateSig, Bool.and_eq_true, decide_eq_true_eq, beq_iff_eq] at h h'
  have := h.2.symm.trans h'.2
  injection this

theorem validate_iff_recover (r : Bytes → Bytes → Option Bytes) (d s a : Bytes) :
    validateSig r d s a = true ↔ 65 ≤ s.length ∧ r (ethSignedMessage d) (normV s) = some a := by
  simp only [validateSig, Bool.and_eq_true, decide_eq_true_eq, beq_iff_eq]

/-- The hub accepts a confirmation exactly when the contract's `verifySig` accepts the same
    signature (with `v` written as 0/1 or 27/28 alike) for the same address and digest.
    `recover` is ONE function used on both sides: it stands for go-ethereum's `SigToPub` ∘
    `PubkeyToAddress` on `r ‖ s ‖ v` with `v ∈ {0,1}`; that the EVM precompile called with
    `v + 27` computes the same address is part of what the abstraction assumes. -/
theorem contract_agrees (r : Bytes → Bytes → Option Bytes) (d sig a : Bytes) (hl : 65 ≤ sig.length) :
    validateSig r d sig a = contractVerify r d (normV sig) a := by
  simp only [validateSig, contractVerify, hl, decide_true, Bool.true_and]

theorem short_sig_rejected (r : Bytes → Bytes → Option Bytes) (d sig a : Bytes) (hl : sig.length < 65) :
    validateSig r d sig a = false := by
  have : ¬ 65 ≤ sig.length := by omega
  simp only [validateSig, this, decide_false, Bool.false_and]

theorem normV_length (sig : Bytes) : (normV sig).length = sig.length := by
  unfold normV; split <;> simp

theorem normV_spec (sig : Bytes) (i : Nat) :
    (normV sig).getD i 0 =
      if i = 64 ∧ (sig.getD 64 0 = 27 ∨ sig.getD 64 0 = 28) then sig.getD 64 0 - 27 else sig.getD i 0 := by
  unfold normV
  simp only [Bool.or_eq_true, beq_iff_eq]
  by_cases hv : sig.getD 64 0 = 27 ∨ sig.getD 64 0 = 28
  · rw [if_pos hv]
    by_cases hi : i = 64
    · subst hi
      rw [if_pos ⟨rfl, hv⟩]
      have hlen : 64 < sig.length := length_of_getD64_ne_zero (by omega)
      simp only [List.getD_eq_getElem?_getD, List.getElem?_set_self hlen, Option.getD_some]
    · rw [if_neg (fun h => hi h.1)]
      simp only [List.getD_eq_getElem?_getD, List.getElem?_set_ne (Ne.symm hi)]
  · rw [if_neg hv, if_neg (fun h => hv h.2)]

/-- The message both sides hash before recovery. "For no other digest": that a signature made
    for one digest does not verify for another is ECDSA unforgeability (plus collision resistance
    of Keccak-256) — a cryptographic assumption, not provable here and not attempted.  What IS
    proved: both sides feed `recover` the same 32-byte message for the same digest. -/
theorem signed_message_agrees (d : Bytes) :
    ethSignedMessage d = keccak256 ([0x19] ++ strBytes "Ethereum Signed Message:\n32" ++ d) := rfl

theorem sig_prefix_bytes : [0x19] ++ strBytes "Ethereum Signed Message:\n32" =
    [25, 69, 116, 104, 101, 114, 101, 117, 109, 32, 83, 105, 103, 110, 101, 100, 32, 77, 101, 115,
     115, 97, 103, 101, 58, 10, 51, 50] := by decide +kernel

/-! ### 5. Bridge lemmas: the source fragments the model transcribes -/

theorem fact_ckpt_signerset_args : Generated.ckpt_signerset_args =
    "gravityIDFixed | checkpoint | new(big.Int).SetUint64(u.Nonce) | memberAddresses | convertedPowers" := rfl
theorem fact_ckpt_signerset_intconv : Generated.ckpt_signerset_intconv =
    "" := rfl
theorem fact_ckpt_signerset_literals : Generated.ckpt_signerset_literals =
    "\"checkpoint\" \"checkpoint\"" := rfl
theorem fact_ckpt_signerset_pack : Generated.ckpt_signerset_pack =
    "packCall(SignerSetTxCheckpointABIJSON, \"checkpoint\", args)" := rfl
theorem fact_ckpt_batch_args : Generated.ckpt_batch_args =
    "gravityIDFixed | batchMethodName | txAmounts | txDestinations | txFees | new(big.Int).SetUint64(b.BatchNonce) | gethcommon.HexToAddress(b.ExternalTokenId) | new(big.Int).SetUint64(b.Timeout)" := rfl
theorem fact_ckpt_batch_intconv : Generated.ckpt_batch_intconv =
    "" := rfl
theorem fact_ckpt_batch_literals : Generated.ckpt_batch_literals =
    "\"transactionBatch\" \"submitBatch\"" := rfl
theorem fact_ckpt_batch_pack : Generated.ckpt_batch_pack =
    "packCall(BatchTxCheckpointABIJSON, \"submitBatch\", args)" := rfl
theorem fact_ckpt_call_args : Generated.ckpt_call_args =
    "gravityIDFixed | logicCallMethodName | transferAmounts | transferTokenContracts | feeAmounts | feeTokenContracts | gethcommon.HexToAddress(c.Address) | payload | new(big.Int).SetUint64(c.Timeout) | invalidationId | new(big.Int).SetUint64(c.InvalidationNonce)" := rfl
theorem fact_ckpt_call_intconv : Generated.ckpt_call_intconv =
    "" := rfl
theorem fact_ckpt_call_literals : Generated.ckpt_call_literals =
    "\"logicCall\" \"checkpoint\"" := rfl
theorem fact_ckpt_call_copies : Generated.ckpt_call_copies =
    "copy(logicCallMethodName[:], methodNameBytes[:]) | copy(payload, c.Payload) | copy(invalidationId[:], c.InvalidationScope[:])" := rfl
theorem fact_ckpt_call_fixed_decls : Generated.ckpt_call_fixed_decls =
    "var logicCallMethodName [32]uint8 | var invalidationId [32]byte" := rfl
theorem fact_ckpt_call_pack : Generated.ckpt_call_pack =
    "packCall(ContractCallTxABIJSON, \"checkpoint\", args)" := rfl
theorem fact_ckpt_signerset_copies : Generated.ckpt_signerset_copies =
    "copy(checkpoint[:], checkpointBytes[:])" := rfl
theorem fact_ckpt_batch_copies : Generated.ckpt_batch_copies =
    "copy(batchMethodName[:], methodNameBytes[:])" := rfl
theorem fact_abi_ContractCallTxABIJSON : Generated.abi_ContractCallTxABIJSON =
    "_gravityId:bytes32,_methodName:bytes32,_transferAmounts:uint256[],_transferTokenContracts:address[],_feeAmounts:uint256[],_feeTokenContracts:address[],_logicContractAddress:address,_payload:bytes,_timeout:uint256,_invalidationId:bytes32,_invalidationNonce:uint256" := rfl
theorem fact_sol_logic_call_encode : Generated.sol_logic_call_encode =
    "state_gravityId, 0x6c6f67696343616c6c0000000000000000000000000000000000000000000000, _args.transferAmounts, _args.transferTokenContracts, _args.feeAmounts, _args.feeTokenContracts, _args.logicContractAddress, _args.payload, _args.timeOut, _args.invalidationId, _args.invalidationNonce" := rfl
theorem fact_packcall_return : Generated.packcall_return =
    "crypto.Keccak256Hash(abiEncodedCall[4:]).Bytes()" := rfl
theorem fact_abi_SignerSetTxCheckpointABIJSON : Generated.abi_SignerSetTxCheckpointABIJSON =
    "_gravityId:bytes32,_checkpoint:bytes32,_valsetNonce:uint256,_validators:address[],_powers:uint256[]" := rfl
theorem fact_abi_BatchTxCheckpointABIJSON : Generated.abi_BatchTxCheckpointABIJSON =
    "_gravityId:bytes32,_methodName:bytes32,_amounts:uint256[],_destinations:address[],_fees:uint256[],_batchNonce:uint256,_tokenContract:address,_batchTimeout:uint256" := rfl
theorem fact_sol_make_checkpoint : Generated.sol_make_checkpoint =
    "_gravityId, methodName, _valsetNonce, _validators, _powers" := rfl
theorem fact_sol_checkpoint_method : Generated.sol_checkpoint_method =
    "0x636865636b706f696e7400000000000000000000000000000000000000000000" := rfl
theorem fact_sol_submit_batch_encode : Generated.sol_submit_batch_encode =
    "state_gravityId, 0x7472616e73616374696f6e426174636800000000000000000000000000000000, _amounts, _destinations, _fees, _batchNonce, _tokenContract, _batchTimeout" := rfl
theorem fact_sol_submit_batch_params : Generated.sol_submit_batch_params =
    "address[] memory _currentValidators, uint256[] memory _currentPowers, uint256 _currentValsetNonce, uint8[] memory _v, bytes32[] memory _r, bytes32[] memory _s, uint256[] memory _amounts, address payable[] memory _destinations, uint256[] memory _fees, uint256 _batchNonce, address _tokenContract, uint256 _batchTimeout" := rfl
theorem fact_sol_update_valset_params : Generated.sol_update_valset_params =
    "address[] memory _newValidators, uint256[] memory _newPowers, uint256 _newValsetNonce, address[] memory _currentValidators, uint256[] memory _currentPowers, uint256 _currentValsetNonce, uint8[] memory _v, bytes32[] memory _r, bytes32[] memory _s" := rfl
theorem fact_sig_prefix : Generated.sig_prefix =
    "\"\\x19Ethereum Signed Message:\\n32\"" := rfl
theorem fact_sol_verify_prefix : Generated.sol_verify_prefix =
    "\"\\x19Ethereum Signed Message:\\n32\", _theHash" := rfl
theorem fact_sig_validate_conds : Generated.sig_validate_conds =
    "len(signature) < 65 | sigCopy[64] == 27 || sigCopy[64] == 28 | err != nil | addr != ethAddress" := rfl

/-! ### 6. Non-vacuity -/

/-- A one-member signer set: 5 heads + (length word + 1 address) + (length word + 1 power). -/
example : (abiEncode (solArgsSignerSet (List.replicate 32 1) (padRight (strBytes "checkpoint") 32) 7
    [List.replicate 20 170] [5])).length = 288 := by decide +kernel

example : ((abiEncode (solArgsSignerSet (List.replicate 32 1) (padRight (strBytes "checkpoint") 32) 7
    [List.replicate 20 170] [5])).drop 96).take 64
      = List.replicate 31 0 ++ [160] ++ (List.replicate 31 0 ++ [224]) := by decide +kernel

example : abiEncode (solArgsSignerSet (List.replicate 32 1) (padRight (strBytes "checkpoint") 32) 7
    [List.replicate 20 170] [5])
      = List.replicate 32 1
        ++ ([99, 104, 101, 99, 107, 112, 111, 105, 110, 116] ++ List.replicate 22 0)
        ++ (List.replicate 31 0 ++ [7])
        ++ (List.replicate 31 0 ++ [160])
        ++ (List.replicate 31 0 ++ [224])
        ++ (List.replicate 31 0 ++ [1]) ++ (List.replicate 12 0 ++ List.replicate 20 170)
        ++ (List.replicate 31 0 ++ [1]) ++ (List.replicate 31 0 ++ [5]) := by decide +kernel

/-- A one-transfer batch: 8 heads + three one-element arrays. -/
example : (abiEncode (goArgsBatch (List.replicate 32 1)
    { amounts := [1000], destinations := [List.replicate 20 187], fees := [3], nonce := 2,
      token := List.replicate 20 204, timeout := 99 })).length = 448 := by decide +kernel

example : ((abiEncode (goArgsBatch (List.replicate 32 1)
    { amounts := [1000], destinations := [List.replicate 20 187], fees := [3], nonce := 2,
      token := List.replicate 20 204, timeout := 99 })).drop 64).take 96
      = (List.replicate 30 0 ++ [1, 0]) ++ (List.replicate 30 0 ++ [1, 64]) ++ (List.replicate 30 0 ++ [1, 128]) := by
  decide +kernel

/-- The hypotheses of `encode_signerset_injective` are satisfiable, and it separates two
    signer sets that differ in one power. -/
example : abiEncode (solArgsSignerSet (List.replicate 32 1) (padRight (strBytes "checkpoint") 32) 7
      [List.replicate 20 170] [5])
    ≠ abiEncode (solArgsSignerSet (List.replicate 32 1) (padRight (strBytes "checkpoint") 32) 7
      [List.replicate 20 170] [6]) := by
  intro h
  have := encode_signerset_injective (by decide) (by decide) method_name_lengths.1 method_name_lengths.1
    (by decide) (by decide) (by decide) (by decide) (by decide) (by decide)
    (by decide) (by decide) (by decide) (by decide) h
  exact absurd this.2.2.2.2 (by decide)

/-- A toy recovery function (the "address" is the first 20 signature bytes) shows
    `validateSig` can hold, with `v = 27` normalised to `0`. -/
example :
    let r : Bytes → Bytes → Option Bytes := fun _ sig => if sig.getD 64 9 = 0 then some (sig.take 20) else none
    validateSig r [1, 2, 3] (List.replicate 64 7 ++ [27]) (List.replicate 20 7) = true := by
  simp only [validateSig, normV]
  decide +kernel

example : scope32 (List.replicate 14 7) = List.replicate 14 7 ++ List.replicate 18 0 := by decide +kernel

/-- A call with one transfer, no fee, a 3-byte payload: 11 heads + five tails. -/
example : (abiEncode (goArgsCall (List.replicate 32 1)
    { transferAmounts := [5], transferTokens := [List.replicate 20 9], feeAmounts := [], feeTokens := [],
      logicContract := List.replicate 20 3, payload := [1, 2, 3], timeout := 10,
      invalidationScope := [7, 7], invalidationNonce := 4 })).length = 11 * 32 + 64 + 64 + 32 + 32 + 64 := by
  decide +kernel

end Mhub2.C07
