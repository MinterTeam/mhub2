/-
  C20 — The Minter connector's persisted cursor after a restart, and command validation.

  The full statement ("every persisted cursor is consistent with the history") is FALSE for the
  implementation and for the model: see `full_statement_false`.  What holds:
    * every cursor committed at the end of a block is consistent (`block_commits_consistent`);
    * the one cursor committed by the early return is consistent iff no bridge event of its block
      precedes the triggering one (`early_return_commit_consistent_iff`);
    * hence every cursor is consistent when no block holds two bridge events
      (`cursor_consistent_partial`), when the hub acknowledged nothing (`no_ack_no_early_return`),
      or when the acknowledged nonce is not below what the scan reaches (`large_ack_no_early_return`).
-/
import Mhub2.Connector
import Mhub2.Generated.Facts
import Lemmas.Connector
namespace Mhub2.C20
open Mhub2


/-! ### 1. Block-end commits -/

/-- Every cursor committed at the end of a block (every commit except the early-return one) is
    consistent with the history; its batch nonce and valset nonce obey the analogous laws, and
    its last-checked block is a block of the history above the start cursor. -/
theorem block_commits_consistent {chain : List MBlock} (hwf : ChainWF chain) (start : Cursor) (ack : Nat) :
    ∀ c ∈ blockCommits (resync start ack chain),
      consistent chain start c = true ∧
      c.nextBatch = start.nextBatch + batchesBetween chain start.lastChecked c.lastChecked ∧
      c.lastValset = valsetAfter start.lastValset (txsBetween chain start.lastChecked c.lastChecked) ∧
      ∃ b ∈ chain, start.lastChecked < b.height ∧ c.lastChecked = b.height :=
  fun _ hc => blockEnd_laws hwf (mem_blockCommits hc)

theorem not_stopped_all_consistent {chain : List MBlock} (hwf : ChainWF chain) (start : Cursor) (ack : Nat)
    (hns : (resync start ack chain).stopped = false) :
    ∀ c ∈ (resync start ack chain).commits, consistent chain start c = true := by
  intro c hc
  have : c ∈ blockCommits (resync start ack chain) := by simpa [blockCommits, hns] using hc
  exact (block_commits_consistent hwf start ack c this).1


/-! ### 2. The early-return commit -/

/-- When the scan takes the early return, it does so in some block `b` above the start cursor, at
    a bridge event `tx` preceded in that block by the transactions `txpre`.  The last commit `c`
    is the early-return commit; it has `lastChecked = b.height - 1`, its `nextEvent` counts the
    events up to block `b.height - 1` PLUS the bridge events of `txpre`; it is consistent iff
    `txpre` holds no bridge event.  When it is inconsistent, `c.nextEvent = ack + 1`: the
    acknowledged nonce belongs to an event inside block `b`. -/
theorem early_return_commit_consistent_iff {chain : List MBlock} (hwf : ChainWF chain)
    (start : Cursor) (ack : Nat) (hstop : (resync start ack chain).stopped = true) :
    ∃ b ∈ chain, ∃ txpre tx txpost c,
      start.lastChecked < b.height ∧ b.txs = txpre ++ tx :: txpost ∧ countsInResync tx = true ∧
      (resync start ack chain).commits = blockCommits (resync start ack chain) ++ [c] ∧
      (resync start ack chain).cur = c ∧
      c.lastChecked = b.height - 1 ∧ start.lastChecked ≤ c.lastChecked ∧
      0 < ack ∧ ack < c.nextEvent ∧
      c.nextEvent = start.nextEvent + eventsBetween chain start.lastChecked (b.height - 1) + evCnt txpre ∧
      c.nextBatch = start.nextBatch + batchesBetween chain start.lastChecked (b.height - 1) + batchCnt txpre ∧
      (0 < evCnt txpre → c.nextEvent = ack + 1) ∧
      (consistent chain start c = true ↔ evCnt txpre = 0) ∧
      (consistent chain start c = true ↔
        c.nextEvent = start.nextEvent + eventsBetween chain start.lastChecked (b.height - 1)) := by
  rcases resync_spec start ack chain with ⟨h1, _, _⟩ | ⟨h1, pre, b, post, txpre, tx, txpost, er⟩
  · rw [h1] at hstop; cases hstop
  · have hm := mem_of_scan_split er.split_blocks
    have hrange := range_below_block hwf er.split_blocks
    obtain ⟨c, hc⟩ : ∃ c, c = earlyCur (curAfter start pre) b.height txpre := ⟨_, rfl⟩
    have hne : c.nextEvent =
        start.nextEvent + eventsBetween chain start.lastChecked (b.height - 1) + evCnt txpre := by
      rw [hc, eventsBetween_eq, hrange, earlyCur_nextEvent, curAfter_nextEvent]
    have hnb : c.nextBatch =
        start.nextBatch + batchesBetween chain start.lastChecked (b.height - 1) + batchCnt txpre := by
      rw [hc, batchesBetween, hrange, earlyCur_nextBatch, curAfter_nextBatch]
    have hlc : c.lastChecked = b.height - 1 := by rw [hc]; rfl
    have hlt : ack < c.nextEvent := hc ▸ er.ack_lt
    have htight : 0 < evCnt txpre → c.nextEvent ≤ ack + 1 := hc ▸ er.ack_tight
    have hcons : consistent chain start c = true ↔
        c.nextEvent = start.nextEvent + eventsBetween chain start.lastChecked (b.height - 1) := by
      rw [consistent_eq_true_iff, hlc]
      exact ⟨fun h => h.2, fun h => ⟨Nat.le_sub_one_of_lt hm.2, h⟩⟩
    refine ⟨b, hm.1, txpre, tx, txpost, c, hm.2, er.split_txs, er.counted, ?_, hc ▸ er.cur_eq, hlc,
      hlc ▸ Nat.le_sub_one_of_lt hm.2, er.ack_pos, hlt, hne, hnb, fun hpos => Nat.le_antisymm (htight hpos) hlt,
      by rw [hcons, hne]; exact Nat.add_eq_left, hcons⟩
    rw [er.blockCommits_eq h1, er.commits_eq, hc]

/-- The full property under a guard: if no block holds more than one bridge event, EVERY
    persisted cursor is consistent.
    (Without the guard the statement is false, see `full_statement_false`:
    start (9,5,1,0), block 10 with two valid deposits, ack 5 persists (9,6,1,0).) -/
theorem cursor_consistent_partial {chain : List MBlock} (hwf : ChainWF chain) (start : Cursor) (ack : Nat)
    (hone : ∀ b ∈ chain, (b.txs.filter countsInResync).length ≤ 1) :
    ∀ c ∈ (resync start ack chain).commits, consistent chain start c = true := by
  by_cases hs : (resync start ack chain).stopped = true
  · obtain ⟨b, hb, txpre, tx, txpost, c', _, htxs, hcnt, hcom, _, _, _, _, _, _, _, _, hiff, _⟩ :=
      early_return_commit_consistent_iff hwf start ack hs
    intro c hc
    rw [hcom, List.mem_append] at hc
    rcases hc with hc | hc
    · exact (block_commits_consistent hwf start ack c hc).1
    · have : c = c' := by simpa using hc
      subst this
      rw [hiff]
      have h1 : evCnt b.txs ≤ 1 := hone b hb
      rw [htxs, evCnt_append, evCnt_cons, hcnt] at h1
      simp at h1; omega
  · exact not_stopped_all_consistent hwf start ack (by simpa using hs)

/-- Per-run criterion: all persisted cursors of a run are consistent iff the run did not stop
    early, or stopped at the first bridge event of a block (its final cursor then carries the
    event count of the blocks up to its `lastChecked`). -/
theorem all_commits_consistent_iff {chain : List MBlock} (hwf : ChainWF chain) (start : Cursor) (ack : Nat) :
    (∀ c ∈ (resync start ack chain).commits, consistent chain start c = true) ↔
    ((resync start ack chain).stopped = true →
      (resync start ack chain).cur.nextEvent =
        start.nextEvent + eventsBetween chain start.lastChecked (resync start ack chain).cur.lastChecked) := by
  by_cases hs : (resync start ack chain).stopped = true
  · obtain ⟨b, hb, txpre, tx, txpost, c', _, htxs, hcnt, hcom, hcur, hlc, _, _, _, _, _, _, _, hiff⟩ :=
      early_return_commit_consistent_iff hwf start ack hs
    rw [hcur, hlc]
    constructor
    · intro h _
      exact hiff.mp (h c' (by rw [hcom]; simp))
    · intro h c hc
      rw [hcom, List.mem_append] at hc
      rcases hc with hc | hc
      · exact (block_commits_consistent hwf start ack c hc).1
      · have : c = c' := by simpa using hc
        subst this
        exact hiff.mpr (h hs)
  · have hns : (resync start ack chain).stopped = false := by simpa using hs
    constructor
    · intro _ h; rw [hns] at h; cases h
    · intro _; exact not_stopped_all_consistent hwf start ack hns

/-- Consistency survives any number of restarts from block-end cursors: if the connector restarts
    from a cursor `c1` that is consistent relative to `start` (for instance a block-end commit of
    an earlier run), every block-end commit of the new run is again consistent relative to
    `start`, whatever nonce the hub acknowledged this time. -/
theorem restart_block_commits_consistent {chain : List MBlock} (hwf : ChainWF chain)
    (start c1 : Cursor) (ack : Nat) (h1 : consistent chain start c1 = true) :
    ∀ c ∈ blockCommits (resync c1 ack chain), consistent chain start c = true :=
  fun c hc => consistent_trans h1 (block_commits_consistent hwf c1 ack c hc).1

/-! ### 3. The full statement is false -/

/-- Start cursor (9,5,1,0), block 10 with two valid deposits, acknowledged nonce 5: the scan
    counts the first deposit (nonce 5 → next 6), takes the early return at the second and
    persists (9,6,1,0): block 10 will be scanned again with the nonce already advanced. -/
theorem full_statement_false :
    ∃ start ack chain, ChainWF chain ∧
      ∃ c ∈ (resync start ack chain).commits, consistent chain start c = false := by
  refine ⟨⟨9, 5, 1, 0⟩, 5, [⟨10, [.send true true true, .send true true true]⟩], ?_, ⟨9, 6, 1, 0⟩, ?_, ?_⟩
  · simp [ChainWF]
  · have h : (resync ⟨9, 5, 1, 0⟩ 5 [⟨10, [.send true true true, .send true true true]⟩]).commits
        = [⟨9, 6, 1, 0⟩] := by decide
    rw [h]; exact List.mem_singleton.mpr rfl
  · decide

theorem full_statement_false_witness :
    (resync ⟨9, 5, 1, 0⟩ 5 [⟨10, [.send true true true, .send true true true]⟩]).commits = [⟨9, 6, 1, 0⟩] ∧
    (resync ⟨9, 5, 1, 0⟩ 5 [⟨10, [.send true true true, .send true true true]⟩]).stopped = true := by
  decide


/-! ### 4. Runs that never take the early return -/

/-- With no acknowledged nonce the early return is never taken, so every commit is consistent. -/
theorem no_ack_no_early_return (start : Cursor) (chain : List MBlock) :
    (resync start 0 chain).stopped = false := by
  rcases resync_spec start 0 chain with ⟨h1, _, _⟩ | ⟨_, pre, b, post, txpre, tx, txpost, er⟩
  · exact h1
  · exact absurd er.ack_pos (by omega)

theorem no_ack_all_consistent {chain : List MBlock} (hwf : ChainWF chain) (start : Cursor) :
    ∀ c ∈ (resync start 0 chain).commits, consistent chain start c = true :=
  not_stopped_all_consistent hwf start 0 (no_ack_no_early_return start chain)

/-- If the acknowledged nonce is at least the last nonce the scan assigns
    (`start.nextEvent + #events above the cursor - 1`), the early return is never taken. -/
theorem large_ack_no_early_return (start : Cursor) (ack : Nat) (chain : List MBlock)
    (hack : start.nextEvent + eventsAbove chain start.lastChecked ≤ ack + 1) :
    (resync start ack chain).stopped = false := by
  rcases resync_spec start ack chain with ⟨h1, _, _⟩ | ⟨_, pre, b, post, txpre, tx, txpost, er⟩
  · exact h1
  · exfalso
    have h1 := er.ack_lt
    rw [earlyCur_nextEvent, curAfter_nextEvent] at h1
    have h2 := evSum_prefix_le pre b post
    rw [← er.split_blocks] at h2
    have h3 : evCnt b.txs = evCnt txpre + 1 + evCnt txpost := by
      rw [er.split_txs, evCnt_append, evCnt_cons, er.counted]; simp; omega
    unfold eventsAbove at hack
    omega

theorem ack_ge_every_nonce_no_early_return (start : Cursor) (ack : Nat) (chain : List MBlock)
    (hack : ∀ hi, start.nextEvent + eventsBetween chain start.lastChecked hi ≤ ack + 1) :
    (resync start ack chain).stopped = false := by
  apply large_ack_no_early_return
  rw [eventsAbove_eq_eventsBetween]
  exact hack _

theorem large_ack_all_consistent {chain : List MBlock} (hwf : ChainWF chain) (start : Cursor) (ack : Nat)
    (hack : start.nextEvent + eventsAbove chain start.lastChecked ≤ ack + 1) :
    ∀ c ∈ (resync start ack chain).commits, consistent chain start c = true :=
  not_stopped_all_consistent hwf start ack (large_ack_no_early_return start ack chain hack)

/-- When the early return is not taken, the final cursor has seen the whole history above the
    start cursor. -/
theorem not_stopped_final_cursor (start : Cursor) (ack : Nat) (chain : List MBlock)
    (hns : (resync start ack chain).stopped = false) :
    (resync start ack chain).cur.nextEvent = start.nextEvent + eventsAbove chain start.lastChecked ∧
    (resync start ack chain).commits.length = (chain.filter fun b => b.height > start.lastChecked).length := by
  rcases resync_spec start ack chain with ⟨_, h2, h3⟩ | ⟨h1, _⟩
  · rw [h3, h2, curAfter_nextEvent, blockEnds_length]; exact ⟨rfl, rfl⟩
  · rw [h1] at hns; cases hns

/-! ### 5. Start-up scan and relay loop count the same transactions -/

theorem same_predicate : countsInResync = countsInRelay := by
  funext tx
  cases tx <;> rfl


/-! ### 6. Command validation -/

/-- A command is accepted iff its type is known, its recipient is valid for that type, and its
    fee is an integer with `0 ≤ fee < amount - amount/100` (truncated division). -/
theorem command_wellformed (known rok : Bool) (fee : Option Int) (amount : Int) :
    commandValid known rok fee amount = true ↔
      known = true ∧ rok = true ∧ ∃ f, fee = some f ∧ 0 ≤ f ∧ f < amount - Int.tdiv amount 100 := by
  unfold commandValid
  generalize Int.tdiv amount 100 = q
  cases fee with
  | none => simp
  | some f =>
    simp only [Bool.and_eq_true, Bool.not_eq_true', decide_eq_false_iff_not, Option.some.injEq,
      exists_eq_left']
    constructor
    · rintro ⟨⟨hk, hr⟩, h1, h2⟩; exact ⟨hk, hr, by omega, by omega⟩
    · rintro ⟨hk, hr, h1, h2⟩; exact ⟨⟨hk, hr⟩, by omega, by omega⟩

/-- A deposit is a bridge event (for the scan and for the relay alike) only if it goes to the
    multisig, its payload parses, and its command is valid. -/
theorem deposit_counts_iff (toM jsonOk valid : Bool) :
    countsInRelay (.send toM jsonOk valid) = true ↔ toM = true ∧ jsonOk = true ∧ valid = true := by
  simp [countsInRelay, and_assoc]


/-! ### 7. Monotonicity -/

/-- Along all commits `nextEvent` never decreases; under a well-formed history `lastChecked`
    strictly increases along the block-end commits and never decreases along all commits. -/
theorem commits_monotone (start : Cursor) (ack : Nat) (chain : List MBlock) :
    (resync start ack chain).commits.Pairwise (fun a b => a.nextEvent ≤ b.nextEvent) ∧
    (∀ c ∈ (resync start ack chain).commits,
      start.nextEvent ≤ c.nextEvent ∧ start.lastChecked ≤ c.lastChecked) ∧
    (ChainWF chain →
      (blockCommits (resync start ack chain)).Pairwise (fun a b => a.lastChecked < b.lastChecked) ∧
      (resync start ack chain).commits.Pairwise (fun a b => a.lastChecked ≤ b.lastChecked)) := by
  have hlo : ∀ bs, (∀ b ∈ bs, start.lastChecked < b.height) → ∀ c ∈ blockEnds start bs,
      start.lastChecked ≤ c.lastChecked := by
    intro bs hbs c hc
    obtain ⟨b, hb, e⟩ := blockEnds_lastChecked_mem hc
    exact e ▸ Nat.le_of_lt (hbs b hb)
  have hF : ∀ b ∈ chain.filter (fun b => b.height > start.lastChecked), start.lastChecked < b.height := by
    intro b hb; exact of_decide_eq_true (List.mem_filter.mp hb).2
  rcases resync_spec start ack chain with ⟨h1, h2, _⟩ | ⟨h1, pre, b, post, txpre, tx, txpost, er⟩
  · refine ⟨?_, ?_, ?_⟩
    · rw [h2]; exact blockEnds_pairwise_nextEvent _ _
    · intro c hc; rw [h2] at hc
      exact ⟨blockEnds_nextEvent_ge hc, hlo _ hF c hc⟩
    · intro hwf
      have hp := blockEnds_pairwise_lastChecked (hwf.filter fun b => b.height > start.lastChecked) start
      constructor
      · rw [blockCommits, if_neg (ne_true_of_eq_false h1), h2]; exact hp
      · rw [h2]; exact hp.imp (fun h => Nat.le_of_lt h)
  · have hcom : (resync start ack chain).commits =
        blockEnds start pre ++ [earlyCur (curAfter start pre) b.height txpre] := by
      rw [er.commits_eq, List.nil_append]
    have hpre : ∀ x ∈ pre, start.lastChecked < x.height :=
      fun x hx => hF x (er.split_blocks ▸ List.mem_append_left _ hx)
    have hb := (mem_of_scan_split er.split_blocks).2
    refine ⟨?_, ?_, ?_⟩
    · rw [hcom, List.pairwise_append]
      refine ⟨blockEnds_pairwise_nextEvent _ _, List.pairwise_singleton _ _, ?_⟩
      intro a ha c hc
      rw [List.mem_singleton.mp hc, earlyCur_nextEvent]
      exact Nat.le_trans (blockEnds_nextEvent_le_curAfter ha) (Nat.le_add_right _ _)
    · intro c hc
      rw [hcom, List.mem_append] at hc
      rcases hc with hc | hc
      · exact ⟨blockEnds_nextEvent_ge hc, hlo _ hpre c hc⟩
      · rw [List.mem_singleton.mp hc, earlyCur_nextEvent, curAfter_nextEvent]
        exact ⟨by rw [Nat.add_assoc]; exact Nat.le_add_right _ _, Nat.le_sub_one_of_lt hb⟩
    · intro hwf
      have hwfF := hwf.filter fun b => b.height > start.lastChecked
      rw [er.split_blocks] at hwfF
      have hsp := List.pairwise_append.mp hwfF
      have hp := blockEnds_pairwise_lastChecked hsp.1 start
      constructor
      · rw [er.blockCommits_eq h1, List.nil_append]; exact hp
      · rw [hcom, List.pairwise_append]
        refine ⟨hp.imp (fun h => Nat.le_of_lt h), List.pairwise_singleton _ _, ?_⟩
        intro a ha c hc
        obtain ⟨x, hx, e⟩ := blockEnds_lastChecked_mem ha
        rw [List.mem_singleton.mp hc, e]
        exact Nat.le_sub_one_of_lt (hsp.2.2 x hx b List.mem_cons_self)

/-! ### 8. Bridge lemmas: the source conditions and writes the model was written from -/

theorem fact_conn_resync_conds : Generated.conn_resync_conds =
    "to > latestBlock | err != nil | tx.Type == uint64(transaction.TypeSend) | sendData.To != ctx.MinterMultisigAddr | err != nil | cmd.ValidateAndComplete(value) == nil | currentNonce > 0 && currentNonce < ctx.LastEventNonce() | tx.Type == uint64(transaction.TypeMultisend) && tx.From == ctx.MinterMultisigAddr | currentNonce > 0 && currentNonce < ctx.LastEventNonce() | tx.Type == uint64(transaction.TypeEditMultisig) && tx.From == ctx.MinterMultisigAddr | err != nil | currentNonce > 0 && currentNonce < ctx.LastEventNonce()" := rfl
theorem fact_conn_resync_writes : Generated.conn_resync_writes =
    "ctx.SetLastCheckedMinterBlock(block.Height - 1) ; ctx.Commit() ; ctx.SetLastEventNonce(ctx.LastEventNonce() + 1) ; ctx.SetLastCheckedMinterBlock(block.Height - 1) ; ctx.Commit() ; ctx.SetLastEventNonce(ctx.LastEventNonce() + 1) ; ctx.SetLastBatchNonce(ctx.LastBatchNonce() + 1) ; ctx.SetLastCheckedMinterBlock(block.Height - 1) ; ctx.Commit() ; ctx.SetLastValsetNonce(uint64(nonce)) ; ctx.SetLastEventNonce(ctx.LastEventNonce() + 1) ; ctx.SetLastCheckedMinterBlock(block.Height) ; ctx.Commit()" := rfl
theorem fact_conn_relay_conds : Generated.conn_relay_conds =
    "latestBlock-ctx.LastCheckedMinterBlock() > 100 | to > latestBlock | err != nil | tx.Type == uint64(transaction.TypeSend) | sendData.To != cfg.Minter.MultisigAddr | err != nil | err != nil | tx.Type == uint64(transaction.TypeMultisend) && tx.From == cfg.Minter.MultisigAddr | tx.Type == uint64(transaction.TypeEditMultisig) && tx.From == cfg.Minter.MultisigAddr | err != nil | len(deposits) == 0 && len(batches) == 0 && len(valsets) == 0 | len(deposits) > 0 || len(batches) > 0 || len(valsets) > 0" := rfl
theorem fact_conn_relay_writes : Generated.conn_relay_writes =
    "ctx.SetLastCheckedMinterBlock(block.Height) ; ctx.SetLastEventNonce(ctx.LastEventNonce() + 1) ; ctx.SetLastEventNonce(ctx.LastEventNonce() + 1) ; ctx.SetLastBatchNonce(ctx.LastBatchNonce() + 1) ; ctx.SetLastEventNonce(ctx.LastEventNonce() + 1) ; ctx.SetLastValsetNonce(uint64(nonce)) ; ctx.Commit() ; ctx.Commit()" := rfl
theorem fact_cmd_conds : Generated.cmd_conds =
    "!common.IsHexAddress(cmd.Recipient) | err != nil | !ok | fee.IsNegative() | amount.Sub(amount.QuoRaw(100)).LTE(fee)" := rfl
theorem fact_cmd_cases : Generated.cmd_cases = "TypeSendToEth,TypeSendToBsc | TypeSendToHub | " := rfl

/-! ### 9. Non-vacuity -/

def exChain : List MBlock :=
  [⟨10, [.send true true true, .other, .send true true false]⟩,
   ⟨11, [.multisend true, .editMultisig true (some 7), .multisend false]⟩,
   ⟨13, [.send true true true, .send true true true]⟩]

example : ChainWF exChain := by simp [ChainWF, exChain]

/-- A consistent multi-block scan (acknowledged nonce 9 = last nonce assigned): three block-end
    commits, all consistent, batch and valset nonces advanced. -/
example : (resync ⟨9, 5, 1, 0⟩ 9 exChain).stopped = false ∧
    (resync ⟨9, 5, 1, 0⟩ 9 exChain).commits = [⟨10, 6, 1, 0⟩, ⟨11, 8, 2, 7⟩, ⟨13, 10, 2, 7⟩] ∧
    ((resync ⟨9, 5, 1, 0⟩ 9 exChain).commits.all fun c => consistent exChain ⟨9, 5, 1, 0⟩ c) = true := by
  decide

/-- The hypothesis of `large_ack_no_early_return` holds for it. -/
example : (⟨9, 5, 1, 0⟩ : Cursor).nextEvent + eventsAbove exChain 9 ≤ 9 + 1 := by decide

/-- An early return at the FIRST bridge event of a block (ack 7 < nonce 8 when entering block
    13): persisted cursor (12,8,2,7), consistent. -/
example : (resync ⟨9, 5, 1, 0⟩ 7 exChain).stopped = true ∧
    (resync ⟨9, 5, 1, 0⟩ 7 exChain).commits = [⟨10, 6, 1, 0⟩, ⟨11, 8, 2, 7⟩, ⟨12, 8, 2, 7⟩] ∧
    consistent exChain ⟨9, 5, 1, 0⟩ ⟨12, 8, 2, 7⟩ = true := by
  decide

/-- An early return at the SECOND bridge event of a block (ack 8): persisted cursor (12,9,2,7),
    inconsistent — block 13 will be scanned again with nonce 9 instead of 8. -/
example : (resync ⟨9, 5, 1, 0⟩ 8 exChain).stopped = true ∧
    (resync ⟨9, 5, 1, 0⟩ 8 exChain).commits.getLast? = some ⟨12, 9, 2, 7⟩ ∧
    consistent exChain ⟨9, 5, 1, 0⟩ ⟨12, 9, 2, 7⟩ = false := by
  decide

/-- The guard of `cursor_consistent_partial` is satisfiable by a history with events. -/
example : ∀ b ∈ [(⟨10, [.send true true true, .other]⟩ : MBlock), ⟨12, [.multisend true]⟩],
    (b.txs.filter countsInResync).length ≤ 1 := by decide

/-- Command validation: fee 98 of amount 100 is accepted, fee 99 is not (100 - 100/100 = 99),
    negative or missing fees are not; amount -5 tolerates no fee at all. -/
example : commandValid true true (some 98) 100 = true ∧ commandValid true true (some 99) 100 = false ∧
    commandValid true true (some (-1)) 100 = false ∧ commandValid true true none 100 = false ∧
    commandValid false true (some 1) 100 = false ∧ commandValid true false (some 1) 100 = false ∧
    commandValid true true (some 0) (-5) = false := by decide

end Mhub2.C20
