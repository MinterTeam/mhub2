import Mhub2.Basic
namespace Mhub2

variable {κ ν : Type} [BEq κ] [LawfulBEq κ]

@[simp] theorem alGet_alSet_same (l : List (κ × ν)) (k : κ) (v : ν) :
    alGet (alSet l k v) k = some v := by
  induction l with
  | nil => simp [alSet, alGet]
  | cons p t ih =>
    obtain ⟨k', v'⟩ := p
    unfold alSet
    by_cases h : k' == k
    · simp [h, alGet]
    · simp [h, alGet, ih]

theorem alGet_alSet_other (l : List (κ × ν)) (k k2 : κ) (v : ν) (hne : k ≠ k2) :
    alGet (alSet l k v) k2 = alGet l k2 := by
  induction l with
  | nil =>
    simp [alSet, alGet]
    intro h; exact absurd h hne
  | cons p t ih =>
    obtain ⟨k', v'⟩ := p
    unfold alSet
    by_cases h : k' == k
    · have hk : k' = k := by simpa using h
      subst hk
      simp [alGet]
      have : (k' == k2) = false := by simpa using hne
      simp [this]
    · simp [h, alGet, ih]

theorem alGet_alSet_cases {l : List (κ × ν)} {k k1 : κ} {v x : ν}
    (h : alGet (alSet l k v) k1 = some x) : (k1 = k ∧ x = v) ∨ alGet l k1 = some x := by
  by_cases e : k = k1
  · rw [← e, alGet_alSet_same] at h
    injection h with h
    exact .inl ⟨e.symm, h.symm⟩
  · rw [alGet_alSet_other _ _ _ _ e] at h
    exact .inr h

theorem mem_of_alGet {l : List (κ × ν)} {k : κ} {v : ν} (h : alGet l k = some v) : (k, v) ∈ l := by
  induction l with
  | nil => cases h
  | cons p t ih =>
    obtain ⟨k', v'⟩ := p
    unfold alGet at h
    by_cases hk : (k' == k) = true
    · rw [if_pos hk] at h
      injection h with h
      rw [← beq_iff_eq.mp hk, ← h]
      exact List.mem_cons_self
    · rw [if_neg hk] at h
      exact List.mem_cons_of_mem _ (ih h)

theorem alGet_of_mem {l : List (κ × ν)} (hn : (l.map (·.1)).Nodup) {k : κ} {v : ν} (h : (k, v) ∈ l) :
    alGet l k = some v := by
  induction l with
  | nil => cases h
  | cons p t ih =>
    obtain ⟨k', v'⟩ := p
    rw [List.map_cons, List.nodup_cons] at hn
    unfold alGet
    rcases List.mem_cons.mp h with e | hm
    · injection e with e1 e2
      rw [e1, e2, if_pos (beq_self_eq_true k')]
    · rw [if_neg, ih hn.2 hm]
      intro hk
      exact hn.1 (beq_iff_eq.mp hk ▸ List.mem_map.mpr ⟨(k, v), hm, rfl⟩)

omit [LawfulBEq κ] in
theorem alSet_keys_mem {l : List (κ × ν)} {k : κ} {v : ν} {x : κ}
    (h : x ∈ (alSet l k v).map (·.1)) : x = k ∨ x ∈ l.map (·.1) := by
  induction l with
  | nil => simpa [alSet] using h
  | cons p t ih =>
    obtain ⟨k', v'⟩ := p
    unfold alSet at h
    by_cases hk : (k' == k) = true
    · rw [if_pos hk, List.map_cons, List.mem_cons] at h
      exact h.imp id (List.mem_cons_of_mem _)
    · rw [if_neg hk, List.map_cons, List.mem_cons] at h
      rcases h with h | h
      · exact .inr (h ▸ List.mem_cons_self)
      · exact (ih h).imp id (List.mem_cons_of_mem _)

theorem alSet_nodup_keys {l : List (κ × ν)} (k : κ) (v : ν) (h : (l.map (·.1)).Nodup) :
    ((alSet l k v).map (·.1)).Nodup := by
  induction l with
  | nil => simp [alSet]
  | cons p t ih =>
    obtain ⟨k', v'⟩ := p
    rw [List.map_cons, List.nodup_cons] at h
    unfold alSet
    by_cases hk : (k' == k) = true
    · rw [if_pos hk, List.map_cons, List.nodup_cons, ← beq_iff_eq.mp hk]
      exact h
    · rw [if_neg hk, List.map_cons, List.nodup_cons]
      refine ⟨fun hm => ?_, ih h.2⟩
      rcases alSet_keys_mem hm with e | hm
      · exact hk (beq_iff_eq.mpr e)
      · exact h.1 hm

theorem alSet_values_inj {l : List (κ × ν)} {k : κ} {v : ν}
    (hinj : ∀ k1 k2 x, alGet l k1 = some x → alGet l k2 = some x → k1 = k2)
    (hfresh : ∀ k', alGet l k' ≠ some v) :
    ∀ k1 k2 x, alGet (alSet l k v) k1 = some x → alGet (alSet l k v) k2 = some x → k1 = k2 := by
  intro k1 k2 x h1 h2
  rcases alGet_alSet_cases h1 with ⟨e1, ex⟩ | h1
  · rcases alGet_alSet_cases h2 with ⟨e2, _⟩ | h2
    · rw [e1, e2]
    · exact absurd (ex ▸ h2) (hfresh k2)
  · rcases alGet_alSet_cases h2 with ⟨_, ex⟩ | h2
    · exact absurd (ex ▸ h1) (hfresh k1)
    · exact hinj k1 k2 x h1 h2

end Mhub2
