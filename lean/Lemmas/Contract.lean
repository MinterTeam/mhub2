/-
  Hub2.sol as modelled in Mhub2/Contract.lean, and the Minter multisig rule (C08).  `validPower` is what
  the signature loop ought to count: `checkSigs.go` is bounded by it and reaches it when every present
  slot is valid.  The three entry points are turned into equivalences (`…_eq_some_iff`).
-/
import Mhub2.Contract
import Lemmas.Assoc
import Lemmas.Fees
import Lemmas.Encoding
namespace Mhub2


def SigSlot.validFor (s : SigSlot) (v h : Bytes) : Bool :=
  match s with
  | .absent => false
  | .sig signer digest => signer == v && digest == h

theorem SigSlot.validFor_iff (s : SigSlot) (v h : Bytes) : s.validFor v h = true ↔ s = .sig v h := by
  cases s with
  | absent => simp [SigSlot.validFor]
  | sig a d => simp [SigSlot.validFor]

namespace C08

/-- The power that really confirmed digest `h`: the sum of `powers[i]` over the slots `i` whose
    signature is `.sig vals[i] h` (by that very validator, over that very digest).  Slots beyond
    the shortest of the three lists do not count (the contract never looks at them either). -/
def validPower : List Bytes → List Nat → List SigSlot → Bytes → Nat
  | v :: vs, p :: ps, s :: ss, h => (if s.validFor v h then p else 0) + validPower vs ps ss h
  | _, _, _, _ => 0

def SlotsOK : List Bytes → List SigSlot → Bytes → Prop
  | v :: vs, s :: ss, h => (s = .absent ∨ s = .sig v h) ∧ SlotsOK vs ss h
  | _, _, _ => True

end C08
open C08

@[simp] theorem validPower_cons (v : Bytes) (vs : List Bytes) (p : Nat) (ps : List Nat) (s : SigSlot)
    (ss : List SigSlot) (h : Bytes) :
    validPower (v :: vs) (p :: ps) (s :: ss) h = (if s.validFor v h then p else 0) + validPower vs ps ss h := rfl

theorem validPower_nil_left (ps : List Nat) (ss : List SigSlot) (h : Bytes) : validPower [] ps ss h = 0 := by
  unfold validPower; rfl

theorem validPower_nil_mid (vs : List Bytes) (ss : List SigSlot) (h : Bytes) : validPower vs [] ss h = 0 := by
  cases vs <;> rfl

theorem validPower_nil_right (vs : List Bytes) (ps : List Nat) (h : Bytes) : validPower vs ps [] h = 0 := by
  cases vs <;> cases ps <;> rfl

theorem slotsOK_of_index {vals : List Bytes} {sigs : List SigSlot} {h : Bytes}
    (hok : ∀ (i : Nat) (v : Bytes) (s : SigSlot), vals[i]? = some v → sigs[i]? = some s →
      s = .absent ∨ s = .sig v h) :
    SlotsOK vals sigs h := by
  induction vals generalizing sigs with
  | nil => simp [SlotsOK]
  | cons v vs ih =>
    cases sigs with
    | nil => simp [SlotsOK]
    | cons s ss =>
      refine ⟨hok 0 v s rfl rfl, ih ?_⟩
      intro i v' s' hv hs
      exact hok (i + 1) v' s' (by simpa using hv) (by simpa using hs)


section Go
variable (h : Bytes) (th : Nat)

theorem go_absent (v : Bytes) (vs : List Bytes) (p : Nat) (ps : List Nat) (ss : List SigSlot) (cum : Nat) :
    checkSigs.go h th (v :: vs) (p :: ps) (.absent :: ss) cum = checkSigs.go h th vs ps ss cum := by
  rw [checkSigs.go]

theorem go_sig (v : Bytes) (vs : List Bytes) (p : Nat) (ps : List Nat) (ss : List SigSlot) (cum : Nat)
    (a d : Bytes) :
    checkSigs.go h th (v :: vs) (p :: ps) (.sig a d :: ss) cum =
      if (SigSlot.sig a d).validFor v h then
        (if cum + p > th then some (cum + p) else checkSigs.go h th vs ps ss (cum + p))
      else none := by
  rw [checkSigs.go]; rfl

theorem go_nil_left (ps : List Nat) (ss : List SigSlot) (cum : Nat) :
    checkSigs.go h th [] ps ss cum = some cum := by
  rw [checkSigs.go]; intros; contradiction

theorem go_nil_mid (vs : List Bytes) (ss : List SigSlot) (cum : Nat) :
    checkSigs.go h th vs [] ss cum = some cum := by
  rw [checkSigs.go]; intros; contradiction

theorem go_nil_right (vs : List Bytes) (ps : List Nat) (cum : Nat) :
    checkSigs.go h th vs ps [] cum = some cum := by
  rw [checkSigs.go]; intros; contradiction

/-- Whatever the loop returns is at least what it started with and at most that plus the valid
    power of the slots it was given (the early `break` only skips later slots). -/
theorem go_some_bounds : ∀ (vs : List Bytes) (ps : List Nat) (ss : List SigSlot) (cum c : Nat),
    checkSigs.go h th vs ps ss cum = some c → cum ≤ c ∧ c ≤ cum + validPower vs ps ss h
  | [], ps, ss, cum, c, hg => by
    rw [go_nil_left] at hg; injection hg with hg; subst hg; simp [validPower_nil_left]
  | _ :: _, [], ss, cum, c, hg => by
    rw [go_nil_mid] at hg; injection hg with hg; subst hg; simp [validPower_nil_mid]
  | _ :: _, _ :: _, [], cum, c, hg => by
    rw [go_nil_right] at hg; injection hg with hg; subst hg; simp [validPower_nil_right]
  | v :: vs, p :: ps, .absent :: ss, cum, c, hg => by
    rw [go_absent] at hg
    have := go_some_bounds vs ps ss cum c hg
    simp only [validPower_cons, SigSlot.validFor]
    simpa using this
  | v :: vs, p :: ps, .sig a d :: ss, cum, c, hg => by
    rw [go_sig] at hg
    by_cases hv : (SigSlot.sig a d).validFor v h = true
    · simp only [hv, if_true] at hg
      simp only [validPower_cons, hv, if_true]
      by_cases hgt : cum + p > th
      · simp only [hgt, if_true] at hg
        injection hg with hg; omega
      · simp only [hgt, if_false] at hg
        have := go_some_bounds vs ps ss (cum + p) c hg
        omega
    · simp [hv] at hg

theorem go_accepts : ∀ (vs : List Bytes) (ps : List Nat) (ss : List SigSlot) (cum : Nat),
    SlotsOK vs ss h → cum + validPower vs ps ss h > th →
      ∃ c, checkSigs.go h th vs ps ss cum = some c ∧ c > th
  | [], ps, ss, cum, _, hp => by
    rw [validPower_nil_left] at hp; exact ⟨cum, go_nil_left h th ps ss cum, hp⟩
  | _ :: _, [], ss, cum, _, hp => by
    rw [validPower_nil_mid] at hp; exact ⟨cum, go_nil_mid h th _ ss cum, hp⟩
  | _ :: _, _ :: _, [], cum, _, hp => by
    rw [validPower_nil_right] at hp; exact ⟨cum, go_nil_right h th _ _ cum, hp⟩
  | v :: vs, p :: ps, .absent :: ss, cum, hok, hp => by
    rw [go_absent]
    apply go_accepts vs ps ss cum hok.2
    simpa [SigSlot.validFor] using hp
  | v :: vs, p :: ps, .sig a d :: ss, cum, hok, hp => by
    rw [go_sig]
    have hv : (SigSlot.sig a d).validFor v h = true := by
      rcases hok.1 with h0 | h0
      · cases h0
      · exact (SigSlot.validFor_iff _ _ _).2 h0
    simp only [validPower_cons, hv, if_true] at hp ⊢
    by_cases hgt : cum + p > th
    · simp only [hgt, if_true]; exact ⟨_, rfl, hgt⟩
    · simp only [hgt, if_false]
      apply go_accepts vs ps ss (cum + p) hok.2
      omega

theorem go_bad_slot : ∀ (j : Nat) (vs : List Bytes) (ps : List Nat) (ss : List SigSlot) (cum : Nat)
    (v : Bytes) (p : Nat) (a d : Bytes),
    vs[j]? = some v → ps[j]? = some p → ss[j]? = some (.sig a d) → ¬ (a = v ∧ d = h) →
    cum + validPower (vs.take j) (ps.take j) (ss.take j) h ≤ th →
      checkSigs.go h th vs ps ss cum = none
  | _, [], _, _, _, _, _, _, _, hv, _, _, _, _ => by simp at hv
  | _, _ :: _, [], _, _, _, _, _, _, _, hp, _, _, _ => by simp at hp
  | _, _ :: _, _ :: _, [], _, _, _, _, _, _, _, hs, _, _ => by simp at hs
  | 0, v0 :: vs, p0 :: ps, s0 :: ss, cum, v, p, a, d, hv, hp, hs, hbad, _ => by
    simp only [List.getElem?_cons_zero, Option.some.injEq] at hv hp hs
    subst hv hp hs
    rw [go_sig]
    have : (SigSlot.sig a d).validFor v0 h = false := by
      cases hc : (SigSlot.sig a d).validFor v0 h with
      | false => rfl
      | true =>
        have := (SigSlot.validFor_iff _ _ _).1 hc
        injection this with h1 h2
        exact absurd ⟨h1, h2⟩ hbad
    simp [this]
  | j + 1, v0 :: vs, p0 :: ps, s0 :: ss, cum, v, p, a, d, hv, hp, hs, hbad, hle => by
    simp only [List.getElem?_cons_succ] at hv hp hs
    simp only [List.take_succ_cons, validPower_cons] at hle
    cases s0 with
    | absent =>
      rw [go_absent]
      apply go_bad_slot j vs ps ss cum v p a d hv hp hs hbad
      simpa [SigSlot.validFor] using hle
    | sig a0 d0 =>
      rw [go_sig]
      by_cases hv0 : (SigSlot.sig a0 d0).validFor v0 h = true
      · simp only [hv0, if_true] at hle ⊢
        have hgt : ¬ (cum + p0 > th) := by omega
        simp only [hgt, if_false]
        apply go_bad_slot j vs ps ss (cum + p0) v p a d hv hp hs hbad
        omega
      · simp [hv0]

end Go

theorem checkSigs_eq (vals : List Bytes) (powers : List Nat) (sigs : List SigSlot) (h : Bytes) (th : Nat) :
    checkSigs vals powers sigs h th =
      match checkSigs.go h th vals powers sigs 0 with
      | some cum => decide (cum > th)
      | none => false := rfl

theorem checkSigs_true_iff (vals : List Bytes) (powers : List Nat) (sigs : List SigSlot) (h : Bytes) (th : Nat) :
    checkSigs vals powers sigs h th = true ↔ ∃ c, checkSigs.go h th vals powers sigs 0 = some c ∧ c > th := by
  rw [checkSigs_eq]
  cases hg : checkSigs.go h th vals powers sigs 0 with
  | none => simp
  | some c => simp


def Hub2St.setBal (s : Hub2St) (token holder : Bytes) (v : Nat) : Hub2St :=
  { s with erc20 := alSet s.erc20 (token, holder) v }

theorem bal_setBal (s : Hub2St) (token holder : Bytes) (v : Nat) (tk x : Bytes) :
    (s.setBal token holder v).bal tk x = if tk = token ∧ x = holder then v else s.bal tk x := by
  unfold Hub2St.setBal Hub2St.bal
  by_cases hc : tk = token ∧ x = holder
  · obtain ⟨rfl, rfl⟩ := hc
    simp
  · rw [alGet_alSet_other _ _ _ _ (by intro he; injection he with h1 h2; exact hc ⟨h1.symm, h2.symm⟩)]
    simp [hc]

/-- One ERC-20 transfer of `amt` from the contract to `dest` (the body of the `payOut` loop). -/
def payStep (s : Hub2St) (token dest : Bytes) (amt : Nat) : Hub2St :=
  let s1 := s.setBal token s.self (s.bal token s.self - amt)
  s1.setBal token dest (s1.bal token dest + amt)

theorem payOut_nil (s : Hub2St) (token : Bytes) : payOut s token [] = some s := rfl

theorem payOut_cons (s : Hub2St) (token dest : Bytes) (amt : Nat) (rest : List (Bytes × Nat)) :
    payOut s token ((dest, amt) :: rest) =
      if s.bal token s.self < amt then none else payOut (payStep s token dest amt) token rest := rfl

theorem payOut_cons_some {s s' : Hub2St} {token dest : Bytes} {amt : Nat} {rest : List (Bytes × Nat)} :
    payOut s token ((dest, amt) :: rest) = some s' ↔
      amt ≤ s.bal token s.self ∧ payOut (payStep s token dest amt) token rest = some s' := by
  rw [payOut_cons]
  split
  · simp only [reduceCtorEq, false_iff, not_and]; omega
  · simp only [iff_and_self]; omega

theorem payStep_self (s : Hub2St) (token dest : Bytes) (amt : Nat) : (payStep s token dest amt).self = s.self := rfl

theorem payStep_core (s : Hub2St) (token dest : Bytes) (amt : Nat) :
    payStep s token dest amt = { s with erc20 := (payStep s token dest amt).erc20 } := rfl

theorem bal_payStep (s : Hub2St) (token dest : Bytes) (amt : Nat) (tk x : Bytes) :
    (payStep s token dest amt).bal tk x =
      if tk = token ∧ x = dest then
        (if dest = s.self then s.bal token s.self - amt else s.bal token dest) + amt
      else if tk = token ∧ x = s.self then s.bal token s.self - amt
      else s.bal tk x := by
  unfold payStep
  simp only [bal_setBal]
  by_cases h1 : tk = token ∧ x = dest
  · simp [h1]
  · simp [h1]

def paidTo (d : Bytes) (l : List (Bytes × Nat)) : Nat := sumNats ((l.filter (fun p => p.1 == d)).map (·.2))

theorem paidTo_nil (d : Bytes) : paidTo d [] = 0 := rfl
theorem paidTo_cons (d dest : Bytes) (amt : Nat) (l : List (Bytes × Nat)) :
    paidTo d ((dest, amt) :: l) = (if dest = d then amt else 0) + paidTo d l := by
  unfold paidTo
  by_cases h : dest = d
  · simp [h, sumNats_cons]
  · simp [h]

theorem payOut_core : ∀ (l : List (Bytes × Nat)) (s s' : Hub2St) (token : Bytes),
    payOut s token l = some s' → s' = { s with erc20 := s'.erc20 }
  | [], s, s', token, h => by cases h; rfl
  | (dest, amt) :: rest, s, s', token, h =>
    payOut_core rest (payStep s token dest amt) s' token (payOut_cons_some.mp h).2

theorem payOut_self {l : List (Bytes × Nat)} {s s' : Hub2St} {token : Bytes}
    (h : payOut s token l = some s') : s'.self = s.self := by
  rw [payOut_core l s s' token h]

theorem payOut_bal_other_token : ∀ (l : List (Bytes × Nat)) (s s' : Hub2St) (token tk x : Bytes),
    payOut s token l = some s' → tk ≠ token → s'.bal tk x = s.bal tk x
  | [], s, s', token, tk, x, h, _ => by cases h; rfl
  | (dest, amt) :: rest, s, s', token, tk, x, h, hne => by
    rw [payOut_bal_other_token rest _ s' token tk x (payOut_cons_some.mp h).2 hne, bal_payStep]
    simp [hne]

theorem payOut_bal_dest : ∀ (l : List (Bytes × Nat)) (s s' : Hub2St) (token d : Bytes),
    payOut s token l = some s' → d ≠ s.self → s'.bal token d = s.bal token d + paidTo d l
  | [], s, s', token, d, h, _ => by cases h; simp [paidTo_nil]
  | (dest, amt) :: rest, s, s', token, d, h, hne => by
    rw [payOut_bal_dest rest _ s' token d (payOut_cons_some.mp h).2 (by rw [payStep_self]; exact hne),
      bal_payStep, paidTo_cons]
    by_cases hd : dest = d
    · subst hd
      simp [hne]; omega
    · have : ¬ d = dest := fun e => hd e.symm
      simp [hd, this, hne]

theorem payOut_bal_self : ∀ (l : List (Bytes × Nat)) (s s' : Hub2St) (token : Bytes),
    payOut s token l = some s' →
      s'.bal token s.self + sumNats ((l.filter (fun p => p.1 != s.self)).map (·.2)) = s.bal token s.self
  | [], s, s', token, h => by cases h; simp
  | (dest, amt) :: rest, s, s', token, h => by
    obtain ⟨hle, h⟩ := payOut_cons_some.mp h
    have ih := payOut_bal_self rest _ s' token h
    rw [payStep_self, bal_payStep] at ih
    by_cases hd : dest = s.self
    · subst hd
      simp only [and_self, if_true] at ih
      simp only [List.filter_cons, bne_self_eq_false, Bool.false_eq_true, if_false]
      omega
    · have hd' : ¬ s.self = dest := fun e => hd e.symm
      simp only [hd', and_false, if_false, and_self, if_true] at ih
      have hb : (dest != s.self) = true := by simpa using hd
      simp only [List.filter_cons, hb, if_true, List.map_cons, sumNats_cons]
      omega

theorem filter_ne_self_eq {l : List (Bytes × Nat)} {self : Bytes} (h : ∀ p ∈ l, p.1 ≠ self) :
    l.filter (fun p => p.1 != self) = l := by
  apply List.filter_eq_self.2
  intro p hp
  simpa using h p hp

theorem payOut_isSome_iff : ∀ (l : List (Bytes × Nat)) (s : Hub2St) (token : Bytes),
    (∀ p ∈ l, p.1 ≠ s.self) →
      ((payOut s token l).isSome = true ↔ sumNats (l.map (·.2)) ≤ s.bal token s.self)
  | [], s, token, _ => by simp [payOut_nil]
  | (dest, amt) :: rest, s, token, hne => by
    rw [payOut_cons]
    have hd : dest ≠ s.self := hne (dest, amt) (by simp)
    have hd' : ¬ s.self = dest := fun e => hd e.symm
    have ih := payOut_isSome_iff rest (payStep s token dest amt) token
      (by intro p hp; rw [payStep_self]; exact hne p (by simp [hp]))
    rw [payStep_self, bal_payStep] at ih
    simp only [hd', and_false, if_false, and_self, if_true] at ih
    simp only [List.map_cons, sumNats_cons]
    split
    · simp; omega
    · rw [ih]; omega


theorem sum_map_update {l : List Bytes} (hnd : l.Nodup) {a : Bytes} (ha : a ∈ l) {f g : Bytes → Nat}
    (hfg : ∀ x, x ≠ a → g x = f x) : sumNats (l.map g) + f a = sumNats (l.map f) + g a := by
  induction l with
  | nil => simp at ha
  | cons y ys ih =>
    simp only [List.map_cons, sumNats_cons]
    rw [List.nodup_cons] at hnd
    by_cases hy : y = a
    · subst hy
      have : sumNats (ys.map g) = sumNats (ys.map f) :=
        sumNats_map_congr (fun x hx => hfg x (fun e => hnd.1 (e ▸ hx)))
      omega
    · have ha' : a ∈ ys := by
        rcases List.mem_cons.1 ha with e | e
        · exact absurd e.symm hy
        · exact e
      have := ih hnd.2 ha'
      rw [hfg y hy]
      omega

theorem payStep_conserves (s : Hub2St) (token dest : Bytes) (amt : Nat) (hle : amt ≤ s.bal token s.self)
    {holders : List Bytes} (hnd : holders.Nodup) (hself : s.self ∈ holders) (hdest : dest ∈ holders) :
    sumNats (holders.map ((payStep s token dest amt).bal token)) = sumNats (holders.map (s.bal token)) := by
  by_cases hd : dest = s.self
  · apply sumNats_map_congr
    intro x _
    rw [bal_payStep]
    subst hd
    by_cases hx : x = s.self
    · subst hx; simp; omega
    · simp [hx]
  · -- two updates: self loses, dest gains
    let f1 : Bytes → Nat := fun x => if x = s.self then s.bal token s.self - amt else s.bal token x
    have h1 := sum_map_update hnd hself (f := s.bal token) (g := f1)
      (by intro x hx; simp [f1, hx])
    have h2 := sum_map_update hnd hdest (f := f1) (g := (payStep s token dest amt).bal token)
      (by
        intro x hx
        rw [bal_payStep]
        simp [f1, hx])
    have e1 : f1 s.self = s.bal token s.self - amt := by simp [f1]
    have e2 : f1 dest = s.bal token dest := by simp [f1, hd]
    have e3 : (payStep s token dest amt).bal token dest = s.bal token dest + amt := by
      rw [bal_payStep]; simp [hd]
    omega

theorem map_snd_zip_of_length {α β : Type} : ∀ (l1 : List α) (l2 : List β), l2.length ≤ l1.length →
    (l1.zip l2).map (·.2) = l2
  | _, [], _ => by simp
  | [], _ :: _, h => by simp at h
  | a :: l1, b :: l2, h => by
    simp only [List.zip_cons_cons, List.map_cons, List.cons.injEq, true_and]
    exact map_snd_zip_of_length l1 l2 (by simpa using h)

theorem mem_zip_fst {α β : Type} {l1 : List α} {l2 : List β} {p : α × β} (h : p ∈ l1.zip l2) : p.1 ∈ l1 :=
  (List.of_mem_zip h).1


def Hub2St.afterValset (s : Hub2St) (newV : ValsetArgs) : Hub2St :=
  { s with checkpoint := makeCheckpoint s.gravityId newV, valsetNonce := newV.nonce,
           eventNonce := s.eventNonce + 1 }

/-- A Solidity `require(c)` in front of `x`: the call succeeds iff `c` holds and `x` succeeds. -/
theorem require_eq_some {α : Type} {c : Bool} {x : Option α} {r : α} :
    (if (!c) = true then none else x) = some r ↔ c = true ∧ x = some r := by cases c <;> simp

theorem updateValset_eq_some_iff (s : Hub2St) (newV cur : ValsetArgs) (sigs : List SigSlot)
    (r : Hub2St × EvmLog) :
    s.updateValset newV cur sigs = some r ↔
      (newV.nonce > cur.nonce ∧ newV.validators.length = newV.powers.length ∧
        cur.validators.length = cur.powers.length ∧ cur.validators.length = sigs.length ∧
        makeCheckpoint s.gravityId cur = s.checkpoint ∧
        checkSigs cur.validators cur.powers sigs (makeCheckpoint s.gravityId newV) s.threshold = true) ∧
      r = (s.afterValset newV, .valsetUpdated newV.nonce (s.eventNonce + 1)) := by
  unfold Hub2St.updateValset Hub2St.afterValset
  simp only [bne, require_eq_some, Bool.and_eq_true, beq_iff_eq, decide_eq_true_eq, Option.some.injEq,
    and_assoc, eq_comm (a := r)]

/-- `submitBatch` records the batch nonce before paying out. -/
def Hub2St.batchPre (s : Hub2St) (b : BatchView) : Hub2St :=
  { s with batchNonces := alSet s.batchNonces b.token b.nonce }

theorem submitBatch_eq_some_iff (s : Hub2St) (cur : ValsetArgs) (sigs : List SigSlot) (b : BatchView)
    (r : Hub2St × EvmLog) :
    s.submitBatch cur sigs b = some r ↔
      (s.lastBatchNonce b.token < b.nonce ∧ s.blockNumber < b.timeout ∧
        cur.validators.length = cur.powers.length ∧ cur.validators.length = sigs.length ∧
        makeCheckpoint s.gravityId cur = s.checkpoint ∧
        b.amounts.length = b.destinations.length ∧ b.amounts.length = b.fees.length ∧
        checkSigs cur.validators cur.powers sigs (batchDigest s.gravityId b) s.threshold = true) ∧
      ∃ s2, payOut (s.batchPre b) b.token (b.destinations.zip b.amounts) = some s2 ∧
        r = ({ s2 with eventNonce := s2.eventNonce + 1 }, .batchExecuted b.nonce b.token (s2.eventNonce + 1)) := by
  unfold Hub2St.submitBatch Hub2St.batchPre
  simp only [bne, require_eq_some, Bool.and_eq_true, beq_iff_eq, decide_eq_true_eq, and_assoc]
  cases payOut { s with batchNonces := alSet s.batchNonces b.token b.nonce } b.token
      (b.destinations.zip b.amounts) with
  | none => simp only [reduceCtorEq, false_and, exists_false, and_false]
  | some s2 => simp only [Option.some.injEq, exists_eq_left', eq_comm (a := r)]

def Hub2St.afterTransfer (s : Hub2St) (token sender : Bytes) (amount : Nat) : Hub2St :=
  let al := (alGet s.allowance (token, sender)).getD 0
  let s1 : Hub2St := { s with erc20 := alSet s.erc20 (token, sender) (s.bal token sender - amount),
                              allowance := alSet s.allowance (token, sender) (al - amount) }
  { s1 with erc20 := alSet s1.erc20 (token, s1.self) (s1.bal token s1.self + amount),
            eventNonce := s1.eventNonce + 1 }

theorem transferToChain_eq_some_iff (s : Hub2St) (token sender : Bytes) (amount fee : Nat)
    (r : Hub2St × EvmLog) :
    s.transferToChain token sender amount fee = some r ↔
      (amount ≤ s.bal token sender ∧ amount ≤ (alGet s.allowance (token, sender)).getD 0) ∧
      r = (s.afterTransfer token sender amount,
           .transferToChain token sender amount fee (s.eventNonce + 1)) := by
  unfold Hub2St.transferToChain Hub2St.afterTransfer
  by_cases h : s.bal token sender < amount ∨ (alGet s.allowance (token, sender)).getD 0 < amount
  · have : ¬ (amount ≤ s.bal token sender ∧ amount ≤ (alGet s.allowance (token, sender)).getD 0) := by omega
    simp [h, this]
  · have h' : amount ≤ s.bal token sender ∧ amount ≤ (alGet s.allowance (token, sender)).getD 0 := by omega
    simp only [Bool.or_eq_true, decide_eq_true_eq, h, if_false, h', and_self, true_and, Option.some.injEq]
    exact eq_comm

theorem bal_afterTransfer (s : Hub2St) (token sender : Bytes) (amount : Nat) (tk x : Bytes) :
    (s.afterTransfer token sender amount).bal tk x =
      if tk = token ∧ x = s.self then
        (if sender = s.self then s.bal token sender - amount else s.bal token s.self) + amount
      else if tk = token ∧ x = sender then s.bal token sender - amount
      else s.bal tk x := by
  have : s.afterTransfer token sender amount =
      { ((s.setBal token sender (s.bal token sender - amount)).setBal token s.self
          ((s.setBal token sender (s.bal token sender - amount)).bal token s.self + amount)) with
        allowance := alSet s.allowance (token, sender) ((alGet s.allowance (token, sender)).getD 0 - amount),
        eventNonce := s.eventNonce + 1 } := rfl
  rw [this]
  show ((s.setBal token sender (s.bal token sender - amount)).setBal token s.self
          ((s.setBal token sender (s.bal token sender - amount)).bal token s.self + amount)).bal tk x = _
  simp only [bal_setBal]
  by_cases h1 : tk = token ∧ x = s.self
  · obtain ⟨rfl, rfl⟩ := h1
    by_cases h2 : s.self = sender
    · simp [h2]
    · have : ¬ sender = s.self := fun e => h2 e.symm
      simp [h2, this]
  · simp [h1]


def signedSum (ws : List Nat) (signed : List Bool) : Nat :=
  sumNats ((ws.zip signed).filterMap fun (w, b) => if b then some w else none)

theorem signedSum_nil_left (bs : List Bool) : signedSum [] bs = 0 := by simp [signedSum]
theorem signedSum_nil_right (ws : List Nat) : signedSum ws [] = 0 := by simp [signedSum]
theorem signedSum_cons (w : Nat) (ws : List Nat) (b : Bool) (bs : List Bool) :
    signedSum (w :: ws) (b :: bs) = (if b then w else 0) + signedSum ws bs := by
  cases b <;> simp [signedSum, sumNats_cons]

theorem minterAccepts_eq (next n : Nat) (ws : List Nat) (signed : List Bool) :
    minterAccepts next n ws signed = (n == next && decide (signedSum ws signed ≥ minterThreshold)) := rfl

theorem signedSum_le_sum : ∀ (ws : List Nat) (bs : List Bool), signedSum ws bs ≤ sumNats ws
  | [], bs => by simp [signedSum_nil_left]
  | w :: ws, [] => by simp [signedSum_nil_right]
  | w :: ws, b :: bs => by
    rw [signedSum_cons, sumNats_cons]
    have := signedSum_le_sum ws bs
    cases b <;> simp <;> omega

theorem signedSum_floor_mul_le (L G : Nat) : ∀ (ps : List Nat) (bs : List Bool),
    signedSum (ps.map fun p => p * L / G) bs * G ≤ signedSum ps bs * L
  | [], bs => by simp [signedSum_nil_left]
  | p :: ps, [] => by simp [signedSum_nil_right]
  | p :: ps, b :: bs => by
    rw [List.map_cons, signedSum_cons, signedSum_cons, Nat.add_mul, Nat.add_mul]
    have ih := signedSum_floor_mul_le L G ps bs
    cases b
    · simpa using ih
    · have := Nat.div_mul_le_self (p * L) G
      simp only [if_true]
      omega

theorem signedSum_floor_lower (L : Nat) {G : Nat} (hG : 0 < G) : ∀ (ps : List Nat) (bs : List Bool),
    signedSum ps bs * L ≤ signedSum (ps.map fun p => p * L / G) bs * G +
      signedSum (ps.map fun _ => 1) bs * (G - 1)
  | [], bs => by simp [signedSum_nil_left]
  | p :: ps, [] => by simp [signedSum_nil_right]
  | p :: ps, b :: bs => by
    simp only [List.map_cons, signedSum_cons]
    have ih := signedSum_floor_lower L hG ps bs
    cases b
    · simpa using ih
    · simp only [if_true]
      have h1 : p * L / G * G + p * L % G = p * L := by
        rw [Nat.mul_comm]; exact Nat.div_add_mod (p * L) G
      have h2 := Nat.mod_lt (p * L) hG
      rw [Nat.add_mul, Nat.add_mul, Nat.add_mul, Nat.one_mul]
      omega

theorem minterWeights_eq (powers : List Nat) :
    minterWeights powers = powers.map fun p => p * 1000 / sumNats powers := rfl


/-- The arguments are EVM values: 20-byte addresses, `uint256` powers and nonce, array lengths that
    fit a `uint256` length word (calldata decoding guarantees all of this on the real contract). -/
structure ValsetArgs.WT (v : ValsetArgs) : Prop where
  addr_len : ∀ a ∈ v.validators, a.length = 20
  powers_lt : ∀ p ∈ v.powers, p < 2 ^ 256
  nonce_lt : v.nonce < 2 ^ 256
  vals_short : v.validators.length < 2 ^ 256
  powers_short : v.powers.length < 2 ^ 256

theorem methodCheckpoint_length : methodCheckpoint.length = 32 := by decide +kernel
theorem methodBatch_length : methodBatch.length = 32 := by decide +kernel

def checkpointPre (g : Bytes) (v : ValsetArgs) : Bytes :=
  abiEncode (solArgsSignerSet g methodCheckpoint v.nonce v.validators v.powers)

theorem makeCheckpoint_eq (g : Bytes) (v : ValsetArgs) : makeCheckpoint g v = keccak256 (checkpointPre g v) := rfl

/-- The nonce enters the pre-image as one `uint256` word, hence only modulo `2^256`. -/
theorem checkpointPre_congr_nonce (g : Bytes) {v1 v2 : ValsetArgs} (hv : v1.validators = v2.validators)
    (hp : v1.powers = v2.powers) (hn : word v1.nonce = word v2.nonce) :
    checkpointPre g v1 = checkpointPre g v2 := by
  simp only [checkpointPre, solArgsSignerSet, abiEncode, abiEncodeAux, AbiVal.isDynamic, AbiVal.body,
    Bool.false_eq_true, if_false, if_true, List.length_cons, List.length_nil, hv, hp, hn]

theorem checkpointPre_inj {g : Bytes} {v1 v2 : ValsetArgs} (hg : g.length = 32) (h1 : v1.WT) (h2 : v2.WT)
    (h : checkpointPre g v1 = checkpointPre g v2) : v1 = v2 := by
  have := Enc.abiEncode_inj
    (a1 := solArgsSignerSet g methodCheckpoint v1.nonce v1.validators v1.powers)
    (a2 := solArgsSignerSet g methodCheckpoint v2.nonce v2.validators v2.powers) rfl
    (Enc.wf_solArgsSignerSet hg methodCheckpoint_length h1.nonce_lt h1.vals_short h1.addr_len
      h1.powers_short h1.powers_lt)
    (Enc.wf_solArgsSignerSet hg methodCheckpoint_length h2.nonce_lt h2.vals_short h2.addr_len
      h2.powers_short h2.powers_lt) h
  simp only [solArgsSignerSet, List.cons.injEq, AbiVal.uint.injEq, AbiVal.addrArr.injEq,
    AbiVal.uintArr.injEq, and_true, true_and] at this
  obtain ⟨hn, hv, hp⟩ := this
  cases v1; cases v2
  simp only at hn hv hp
  subst hn hv hp
  rfl

end Mhub2
