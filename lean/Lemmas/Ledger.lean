/-
  The outgoing-transfer ledger (pool, batches): the invariant "an id is in one place" and the step
  relations between hub states (`Hub.Step`: nothing reappears, `Hub.Keeps`: nothing is lost), proved
  across the handler-side `Moves` once and across each block function.  `PoolGrow` / `EndEvo` track
  the ids issued inside an end block, `CancelEvo` sequences of batch cancellations.  Lemma names end
  in the relation they establish: `_keeps`, `_step`, `_only` (`OnlyChain`), `_same` (`SameLedger`),
  `_rk` (`RefundedKept`), `_bk` (`BatchesKept`).
-/
import Mhub2.Value
import Lemmas.Ops
namespace Mhub2

/-! ### Per-chain ledger: ids, invariant, step relation -/

def ChainSt.ids (c : ChainSt) : List Nat :=
  c.pool.map (·.id) ++ c.batches.flatMap (fun b => b.txs.map (·.id))

theorem ChainSt.ids_eq (c : ChainSt) : c.ids = c.entries.map (·.id) := by
  simp [ChainSt.ids, ChainSt.entries, List.map_flatMap]

theorem ChainSt.mem_ids {c : ChainSt} {id : Nat} : id ∈ c.ids ↔ ∃ s ∈ c.entries, s.id = id := by
  simp [ChainSt.ids_eq]

theorem ChainSt.mem_entries {c : ChainSt} {s : Ste} :
    s ∈ c.entries ↔ s ∈ c.pool ∨ ∃ b ∈ c.batches, s ∈ b.txs := by
  simp [ChainSt.entries]

theorem ChainSt.has_iff_mem_entries {c : ChainSt} {u : Ste} : c.Has u ↔ u ∈ c.entries :=
  ChainSt.mem_entries.symm

/-- The implementation's counters are `uint64`; keys encode ids and nonces in 8 bytes. -/
def ChainSt.Bounded (c : ChainSt) : Prop := c.lastSteId < 2 ^ 64 ∧ c.lastBatchNonce < 2 ^ 64

structure ChainSt.Inv (c : ChainSt) : Prop where
  nodup : c.ids.Nodup
  range : ∀ id ∈ c.ids, 1 ≤ id ∧ id ≤ c.lastSteId
  bnodup : (c.batches.map (·.nonce)).Nodup
  brange : ∀ b ∈ c.batches, b.nonce ≤ c.lastBatchNonce

theorem ChainSt.Inv.entries_nodup {c : ChainSt} (hi : c.Inv) : c.entries.Nodup :=
  nodup_of_map (·.id) (by rw [← ChainSt.ids_eq]; exact hi.nodup)

theorem ChainSt.Inv.entry_inj {c : ChainSt} (hi : c.Inv) {x y : Ste} (hx : x ∈ c.entries) (hy : y ∈ c.entries)
    (he : x.id = y.id) : x = y :=
  inj_of_nodup_map (·.id) (by rw [← ChainSt.ids_eq]; exact hi.nodup) hx hy he

theorem ChainSt.Inv.entry_le {c : ChainSt} (hi : c.Inv) {x : Ste} (hx : x ∈ c.entries) :
    x.id ≤ c.lastSteId :=
  (hi.range x.id (ChainSt.mem_ids.mpr ⟨x, hx, rfl⟩)).2

theorem ChainSt.Inv.poolKey_inj {c : ChainSt} (hi : c.Inv) (hb : c.lastSteId < 2 ^ 64) {x y : Ste}
    (hx : x ∈ c.entries) (hy : y ∈ c.entries) (he : poolKey x = poolKey y) : x = y := by
  have h1 := hi.entry_le hx
  have h2 := hi.entry_le hy
  exact hi.entry_inj hx hy (Mhub2.poolKey_inj he (by omega) (by omega))

theorem ChainSt.Inv.batchKey_inj {c : ChainSt} (hi : c.Inv) (hb : c.lastBatchNonce < 2 ^ 64) {x y : Batch}
    (hx : x ∈ c.batches) (hy : y ∈ c.batches) (he : batchKey x = batchKey y) : x = y := by
  have h1 := hi.brange x hx
  have h2 := hi.brange y hy
  exact inj_of_nodup_map (·.nonce) hi.bnodup hx hy (Mhub2.batchKey_inj he (by omega) (by omega))

structure ChainSt.Step (c c' : ChainSt) : Prop where
  mono : c.lastSteId ≤ c'.lastSteId
  monoB : c.lastBatchNonce ≤ c'.lastBatchNonce
  sub : ∀ id ∈ c'.ids, id ∈ c.ids ∨ (c.lastSteId < id ∧ id ≤ c'.lastSteId)
  inv : c.Inv → c'.Bounded → c'.Inv

theorem ChainSt.Bounded.mono {c c' : ChainSt} (hb : c'.Bounded) (h1 : c.lastSteId ≤ c'.lastSteId)
    (h2 : c.lastBatchNonce ≤ c'.lastBatchNonce) : c.Bounded :=
  ⟨Nat.lt_of_le_of_lt h1 hb.1, Nat.lt_of_le_of_lt h2 hb.2⟩

theorem ChainSt.Step.refl (c : ChainSt) : ChainSt.Step c c :=
  ⟨Nat.le_refl _, Nat.le_refl _, fun _ h => .inl h, fun h _ => h⟩

theorem ChainSt.Step.trans {a b c : ChainSt} (h1 : ChainSt.Step a b) (h2 : ChainSt.Step b c) :
    ChainSt.Step a c := by
  refine ⟨Nat.le_trans h1.mono h2.mono, Nat.le_trans h1.monoB h2.monoB, ?_, ?_⟩
  · intro id hid
    rcases h2.sub id hid with h | h
    · rcases h1.sub id h with h' | h'
      · exact .inl h'
      · exact .inr ⟨h'.1, Nat.le_trans h'.2 h2.mono⟩
    · exact .inr ⟨Nat.lt_of_le_of_lt h1.mono h.1, h.2⟩
  · intro hi hb
    exact h2.inv (h1.inv hi (hb.mono h2.mono h2.monoB)) hb

structure ChainSt.Keeps (c c' : ChainSt) : Prop extends ChainSt.Step c c' where
  keep : c.Inv → c'.Bounded → ∀ s ∈ c.entries, s ∈ c'.entries
  fresh : c.Inv → c'.Bounded → ∀ id, c.lastSteId < id → id ≤ c'.lastSteId → id ∈ c'.ids

theorem ChainSt.Keeps.refl (c : ChainSt) : ChainSt.Keeps c c :=
  { ChainSt.Step.refl c with keep := fun _ _ _ h => h, fresh := fun _ _ id h1 h2 => by omega }

theorem ChainSt.Keeps.trans {a b c : ChainSt} (h1 : ChainSt.Keeps a b) (h2 : ChainSt.Keeps b c) :
    ChainSt.Keeps a c := by
  refine { h1.toStep.trans h2.toStep with keep := ?_, fresh := ?_ }
  · intro hi hb s hs
    have hbb := hb.mono h2.mono h2.monoB
    exact h2.keep (h1.inv hi hbb) hb s (h1.keep hi hbb s hs)
  · intro hi hb id hl hu
    have hbb := hb.mono h2.mono h2.monoB
    by_cases hid : id ≤ b.lastSteId
    · obtain ⟨s, hs, he⟩ := ChainSt.mem_ids.mp (h1.fresh hi hbb id hl hid)
      exact ChainSt.mem_ids.mpr ⟨s, h2.keep (h1.inv hi hbb) hb s hs, he⟩
    · exact h2.fresh (h1.inv hi hbb) hb id (by omega) hu

theorem ChainSt.Keeps.keep_ids {c c' : ChainSt} (h : ChainSt.Keeps c c') (hi : c.Inv) (hb : c'.Bounded)
    {id : Nat} (hid : id ∈ c.ids) : id ∈ c'.ids := by
  obtain ⟨s, hs, he⟩ := ChainSt.mem_ids.mp hid
  exact ChainSt.mem_ids.mpr ⟨s, h.keep hi hb s hs, he⟩

theorem ChainSt.Keeps.ids_perm {c c' : ChainSt} (hk : ChainSt.Keeps c c') (hi : c.Inv) (hb : c'.Bounded) :
    c'.ids.Perm (List.range' (c.lastSteId + 1) (c'.lastSteId - c.lastSteId) ++ c.ids) := by
  have hi' := hk.inv hi hb
  have hm := hk.mono
  have hnd : (List.range' (c.lastSteId + 1) (c'.lastSteId - c.lastSteId) ++ c.ids).Nodup := by
    rw [List.nodup_append]
    refine ⟨List.nodup_range' (step := 1), hi.nodup, fun a ha b hb' hab => ?_⟩
    subst hab
    have h1 := (List.mem_range'_1.mp ha).1
    have h2 := (hi.range a hb').2
    omega
  rw [List.perm_ext_iff_of_nodup hi'.nodup hnd]
  intro id
  rw [List.mem_append, List.mem_range'_1]
  constructor
  · intro hid
    rcases hk.sub id hid with h1 | h1
    · exact .inr h1
    · exact .inl (by omega)
  · intro hid
    rcases hid with h1 | h1
    · exact hk.fresh hi hb id (by omega) (by omega)
    · exact hk.keep_ids hi hb h1

theorem ChainSt.Keeps.ids_perm_same {c c' : ChainSt} (hk : ChainSt.Keeps c c') (hi : c.Inv) (hb : c'.Bounded)
    (hl : c'.lastSteId = c.lastSteId) : c'.ids.Perm c.ids := by
  have := hk.ids_perm hi hb
  rw [hl, Nat.sub_self] at this
  simpa using this

theorem ChainSt.Step.of_sublist {c c' : ChainSt} (h1 : c'.lastSteId = c.lastSteId)
    (h2 : c'.lastBatchNonce = c.lastBatchNonce) (hp : c'.pool.Sublist c.pool)
    (hb : c'.batches.Sublist c.batches) : ChainSt.Step c c' := by
  have hids : c'.ids.Sublist c.ids := by
    unfold ChainSt.ids
    exact List.Sublist.append (hp.map _) (sublist_flatMap _ hb)
  refine ⟨by omega, by omega, fun id hid => .inl (hids.subset hid), fun hi _ => ?_⟩
  refine ⟨hi.nodup.sublist hids, fun id hid => ?_, hi.bnodup.sublist (hb.map _), fun b hbm => ?_⟩
  · rw [h1]; exact hi.range id (hids.subset hid)
  · rw [h2]; exact hi.brange b (hb.subset hbm)

theorem ChainSt.Keeps.of_perm {c c' : ChainSt} {new : List Ste} (h1 : c.lastSteId ≤ c'.lastSteId)
    (h2 : c.lastBatchNonce ≤ c'.lastBatchNonce)
    (hnew : new.map (·.id) = List.range' (c.lastSteId + 1) (c'.lastSteId - c.lastSteId))
    (hsub : ∀ s ∈ c'.entries, s ∈ new ∨ s ∈ c.entries)
    (hperm : c.Inv → c'.Bounded → c'.entries.Perm (new ++ c.entries) ∧ (c'.batches.map (·.nonce)).Nodup ∧
      ∀ b ∈ c'.batches, b.nonce ≤ c'.lastBatchNonce) : ChainSt.Keeps c c' := by
  have hrange : ∀ id, id ∈ new.map (·.id) ↔ c.lastSteId < id ∧ id ≤ c'.lastSteId := fun id => by
    rw [hnew, List.mem_range'_1]; omega
  have hids : c.Inv → c'.Bounded → c'.ids.Perm (new.map (·.id) ++ c.ids) := fun hi hb => by
    rw [ChainSt.ids_eq, ChainSt.ids_eq, ← List.map_append]; exact (hperm hi hb).1.map _
  refine { mono := h1, monoB := h2, sub := ?_, inv := ?_, keep := ?_, fresh := ?_ }
  · intro id hid
    obtain ⟨s, hs, rfl⟩ := ChainSt.mem_ids.mp hid
    rcases hsub s hs with h | h
    · exact .inr ((hrange s.id).mp (List.mem_map_of_mem h))
    · exact .inl (ChainSt.mem_ids.mpr ⟨s, h, rfl⟩)
  · intro hi hb
    refine ⟨(hids hi hb).symm.nodup ?_, fun id hid => ?_, (hperm hi hb).2.1, (hperm hi hb).2.2⟩
    · rw [List.nodup_append, hnew]
      refine ⟨List.nodup_range' (step := 1), hi.nodup, fun a ha b hb' hab => ?_⟩
      subst hab
      have := (hrange a).mp (hnew ▸ ha)
      have := (hi.range a hb').2
      omega
    · rcases List.mem_append.mp ((hids hi hb).subset hid) with h | h
      · have := (hrange id).mp h; omega
      · have := hi.range id h; omega
  · intro hi hb s hs
    exact (hperm hi hb).1.symm.subset (List.mem_append_right _ hs)
  · intro hi hb id hl hu
    exact (hids hi hb).symm.subset (List.mem_append_left _ ((hrange id).mpr ⟨hl, hu⟩))

/-! ### The store manipulations, on one chain

Under the invariant and the `uint64` bound a key names one entry of its store, so inserting under
an unissued id or nonce adds an entry and erasing the key of a stored entry removes just that one. -/

theorem ChainSt.Inv.insertPool_perm {c : ChainSt} (hi : c.Inv) {ste : Ste} (hid : c.lastSteId < ste.id)
    (hb : ste.id < 2 ^ 64) : (insertByKey poolKey ste c.pool).Perm (ste :: c.pool) := by
  refine insertByKey_perm poolKey fun y hy he => ?_
  have := hi.entry_le (ChainSt.mem_entries.mpr (.inl hy))
  have := Mhub2.poolKey_inj he (by omega) hb
  omega

theorem ChainSt.Inv.insertBatch_perm {c : ChainSt} (hi : c.Inv) {b : Batch} (hn : c.lastBatchNonce < b.nonce)
    (hb : b.nonce < 2 ^ 64) : (insertByKey batchKey b c.batches).Perm (b :: c.batches) := by
  refine insertByKey_perm batchKey fun y hy he => ?_
  have := hi.brange y hy
  have := Mhub2.batchKey_inj he (by omega) hb
  omega

theorem ChainSt.Inv.eraseBatch_perm {c : ChainSt} (hi : c.Inv) (hb : c.lastBatchNonce < 2 ^ 64) {b : Batch}
    (hbm : b ∈ c.batches) : c.batches.Perm (b :: eraseByKey batchKey (batchKey b) c.batches) :=
  eraseByKey_perm batchKey hbm fun _ hy he => hi.batchKey_inj hb hy hbm he

theorem entries_perm_of_batches {p : List Ste} {b : Batch} {bs bs' : List Batch} (h : bs'.Perm (b :: bs)) :
    (p ++ bs'.flatMap (·.txs)).Perm ((b.txs ++ p) ++ bs.flatMap (·.txs)) := by
  refine (List.Perm.append_left p (h.flatMap_right (·.txs))).trans ?_
  rw [List.flatMap_cons, ← List.append_assoc]
  exact List.perm_append_comm.append_right _

/-- `createSendToExternal` on the chain: a new pool entry under the next id. -/
theorem ChainSt.addPool_perm {c c' : ChainSt} {ste : Ste} (hid : ste.id = c.lastSteId + 1)
    (h1 : c'.lastSteId = ste.id) (hp : c'.pool = insertByKey poolKey ste c.pool)
    (hb : c'.batches = c.batches) (hi : c.Inv) (hbd : c'.Bounded) :
    c'.pool.Perm (ste :: c.pool) ∧ c'.entries.Perm (ste :: c.entries) := by
  have hpp : c'.pool.Perm (ste :: c.pool) := by
    rw [hp]; exact hi.insertPool_perm (by omega) (by have := hbd.1; omega)
  refine ⟨hpp, ?_⟩
  unfold ChainSt.entries
  rw [hb]
  exact hpp.append_right _

theorem ChainSt.Keeps.addPool {c c' : ChainSt} {ste : Ste} (hid : ste.id = c.lastSteId + 1)
    (h1 : c'.lastSteId = ste.id) (h2 : c'.lastBatchNonce = c.lastBatchNonce)
    (hp : c'.pool = insertByKey poolKey ste c.pool) (hb : c'.batches = c.batches) :
    ChainSt.Keeps c c' := by
  refine .of_perm (new := [ste]) (by omega) (by omega) ?_ (fun s hs => ?_) fun hi hbd => ?_
  · rw [h1, hid, Nat.add_sub_cancel_left]; exact congrArg (· :: []) hid
  · rcases ChainSt.mem_entries.mp hs with hs | hs
    · rw [hp] at hs
      rcases mem_insertByKey_cases poolKey hs with hs | hs
      · exact .inl (List.mem_singleton.mpr hs)
      · exact .inr (ChainSt.mem_entries.mpr (.inl hs))
    · rw [hb] at hs
      exact .inr (ChainSt.mem_entries.mpr (.inr hs))
  · rw [hb, h2]
    exact ⟨(ChainSt.addPool_perm hid h1 hp hb hi hbd).2, hi.bnodup, hi.brange⟩

theorem ChainSt.erasePool_perm {c c' : ChainSt} {s : Ste} (hs : s ∈ c.pool)
    (hp : c'.pool = eraseByKey poolKey (poolKey s) c.pool) (hb : c'.batches = c.batches)
    (hi : c.Inv) (hbd : c.lastSteId < 2 ^ 64) :
    c.entries.Perm (s :: c'.entries) := by
  have hpp : c.pool.Perm (s :: c'.pool) := by
    rw [hp]
    exact eraseByKey_perm poolKey hs fun y hy he =>
      hi.poolKey_inj hbd (ChainSt.mem_entries.mpr (.inl hy)) (ChainSt.mem_entries.mpr (.inl hs)) he
  unfold ChainSt.entries
  rw [hb]
  exact hpp.append_right _

theorem ChainSt.eraseBatch_perm {c c' : ChainSt} {b : Batch} (hbm : b ∈ c.batches)
    (hb : c'.batches = eraseByKey batchKey (batchKey b) c.batches) (hp : c'.pool = c.pool)
    (hi : c.Inv) (hbd : c.Bounded) :
    c.batches.Perm (b :: c'.batches) ∧ ∀ t ∈ b.txs, t.id ∉ c'.ids := by
  have hbp : c.batches.Perm (b :: c'.batches) := by rw [hb]; exact hi.eraseBatch_perm hbd.2 hbm
  refine ⟨hbp, fun t ht hid => ?_⟩
  have he : c.entries.Perm (b.txs ++ c'.entries) := by
    unfold ChainSt.entries
    rw [hp, ← List.append_assoc]
    exact entries_perm_of_batches hbp
  have hnd : (b.txs.map (·.id) ++ c'.ids).Nodup := by
    rw [ChainSt.ids_eq c', ← List.map_append]
    exact (he.map _).nodup (by rw [← ChainSt.ids_eq]; exact hi.nodup)
  exact (List.nodup_append.mp hnd).2.2 t.id (List.mem_map_of_mem ht) t.id hid rfl

theorem selectForBatch_nodup {pool : List Ste} (tok : String) (n : Nat) (h : pool.Nodup) :
    (selectForBatch pool tok n).Nodup := by
  unfold selectForBatch
  refine List.Nodup.sublist (List.take_sublist _ _) ?_
  exact (List.reverse_perm _).symm.nodup (h.sublist List.filter_sublist)

/-- `BuildBatchTx` on the chain: the selection moves from the pool into a new batch. -/
theorem ChainSt.Keeps.buildBatch {c c' : ChainSt} {b : Batch}
    (hsel : ∀ s ∈ b.txs, s ∈ c.pool) (hseln : c.pool.Nodup → b.txs.Nodup)
    (hbn : b.nonce = c.lastBatchNonce + 1)
    (h1 : c'.lastSteId = c.lastSteId) (h2 : c'.lastBatchNonce = b.nonce)
    (hp : c'.pool = b.txs.foldl (fun p s => eraseByKey poolKey (poolKey s) p) c.pool)
    (hb : c'.batches = insertByKey batchKey b c.batches) : ChainSt.Keeps c c' := by
  refine .of_perm (new := []) (by omega) (by omega) (by rw [h1, Nat.sub_self]; rfl) (fun s hs => .inr ?_)
    fun hi hbd => ?_
  · rcases ChainSt.mem_entries.mp hs with hs | ⟨b', hb', hs⟩
    · rw [hp] at hs
      exact ChainSt.mem_entries.mpr (.inl ((foldl_eraseByKey_sublist poolKey _ _).subset hs))
    · rw [hb] at hb'
      rcases mem_insertByKey_cases batchKey hb' with h | h
      · subst h; exact ChainSt.mem_entries.mpr (.inl (hsel s hs))
      · exact ChainSt.mem_entries.mpr (.inr ⟨b', h, hs⟩)
  · have hpn : c.pool.Nodup := (List.nodup_append.mp hi.entries_nodup).1
    have hpp : c.pool.Perm (b.txs ++ c'.pool) := by
      rw [hp]
      exact foldl_eraseByKey_perm poolKey (hseln hpn) hsel hpn fun x hx y hy he =>
        hi.poolKey_inj (by have := hbd.1; omega) (ChainSt.mem_entries.mpr (.inl hx))
          (ChainSt.mem_entries.mpr (.inl hy)) he
    have hbp : c'.batches.Perm (b :: c.batches) := by
      rw [hb]; exact hi.insertBatch_perm (by omega) (by have := hbd.2; omega)
    refine ⟨?_, (hbp.map (·.nonce)).symm.nodup (List.nodup_cons.mpr ⟨fun hm => ?_, hi.bnodup⟩), fun b' hb' => ?_⟩
    · exact (entries_perm_of_batches hbp).trans (hpp.symm.append_right _)
    · obtain ⟨y, hy, he⟩ := List.mem_map.mp hm
      have := hi.brange y hy
      have : y.nonce = b.nonce := he
      omega
    · rcases List.mem_cons.mp (hbp.subset hb') with h | h
      · subst h; omega
      · have := hi.brange b' h; omega

theorem ChainSt.cancelBatch_perm {c c' : ChainSt} {b : Batch} (hbm : b ∈ c.batches)
    (hp : c'.pool = b.txs.foldl (fun p s => insertByKey poolKey s p) c.pool)
    (hb : c'.batches = eraseByKey batchKey (batchKey b) c.batches) (hi : c.Inv) (hbd : c.Bounded) :
    c.batches.Perm (b :: c'.batches) ∧ c'.pool.Perm (b.txs ++ c.pool) ∧ c'.entries.Perm c.entries := by
  have hbp : c.batches.Perm (b :: c'.batches) := by rw [hb]; exact hi.eraseBatch_perm hbd.2 hbm
  have he : c.entries.Perm ((b.txs ++ c.pool) ++ c'.batches.flatMap (·.txs)) := entries_perm_of_batches hbp
  have hpp : c'.pool.Perm (b.txs ++ c.pool) := by
    rw [hp]
    refine foldl_insertByKey_perm poolKey (List.nodup_append.mp (he.nodup hi.entries_nodup)).1
      fun x hx y hy hk => ?_
    exact hi.poolKey_inj hbd.1 (he.symm.subset (List.mem_append_left _ hx))
      (he.symm.subset (List.mem_append_left _ hy)) hk
  exact ⟨hbp, hpp, (hpp.append_right _).trans he.symm⟩

/-- `CancelBatchTx` on the chain: the batch's transfers move back into the pool. -/
theorem ChainSt.Keeps.cancelBatch {c c' : ChainSt} {b : Batch} (hbm : b ∈ c.batches)
    (h1 : c'.lastSteId = c.lastSteId) (h2 : c'.lastBatchNonce = c.lastBatchNonce)
    (hp : c'.pool = b.txs.foldl (fun p s => insertByKey poolKey s p) c.pool)
    (hb : c'.batches = eraseByKey batchKey (batchKey b) c.batches) : ChainSt.Keeps c c' := by
  have hbs : c'.batches.Sublist c.batches := by rw [hb]; exact eraseByKey_sublist _ _ _
  refine .of_perm (new := []) (by omega) (by omega) (by rw [h1, Nat.sub_self]; rfl) (fun s hs => .inr ?_)
    fun hi hbd => ?_
  · rcases ChainSt.mem_entries.mp hs with hs | ⟨b', hb', hs⟩
    · rw [hp] at hs
      rcases mem_of_mem_foldl_insertByKey poolKey hs with h | h
      · exact ChainSt.mem_entries.mpr (.inr ⟨b, hbm, h⟩)
      · exact ChainSt.mem_entries.mpr (.inl h)
    · exact ChainSt.mem_entries.mpr (.inr ⟨b', hbs.subset hb', hs⟩)
  · have hbd' : c.Bounded := ⟨by have := hbd.1; omega, by have := hbd.2; omega⟩
    refine ⟨(ChainSt.cancelBatch_perm hbm hp hb hi hbd').2.2, hi.bnodup.sublist (hbs.map _), fun b' hb' => ?_⟩
    rw [h2]; exact hi.brange b' (hbs.subset hb')


/-! ### Hub level -/

def Hub.LedgerInv (h : Hub) : Prop :=
  ∀ chain, (h.chain chain).ids.Nodup ∧
    (∀ id ∈ (h.chain chain).ids, 1 ≤ id ∧ id ≤ (h.chain chain).lastSteId) ∧
    ((h.chain chain).batches.map (·.nonce)).Nodup ∧
    (∀ b ∈ (h.chain chain).batches, b.nonce ≤ (h.chain chain).lastBatchNonce)

theorem Hub.ledgerInv_iff {h : Hub} : h.LedgerInv ↔ ∀ chain, (h.chain chain).Inv :=
  ⟨fun hi c => ⟨(hi c).1, (hi c).2.1, (hi c).2.2.1, (hi c).2.2.2⟩,
   fun hi c => ⟨(hi c).nodup, (hi c).range, (hi c).bnodup, (hi c).brange⟩⟩

def Hub.Bounded (h : Hub) : Prop := ∀ chain, (h.chain chain).Bounded

def Hub.Step (h h' : Hub) : Prop := ∀ chain, ChainSt.Step (h.chain chain) (h'.chain chain)
def Hub.Keeps (h h' : Hub) : Prop := ∀ chain, ChainSt.Keeps (h.chain chain) (h'.chain chain)

theorem Hub.Keeps.step {h h' : Hub} (hk : Hub.Keeps h h') : Hub.Step h h' := fun c => (hk c).toStep
theorem Hub.Step.refl (h : Hub) : Hub.Step h h := fun _ => ChainSt.Step.refl _
theorem Hub.Keeps.refl (h : Hub) : Hub.Keeps h h := fun _ => ChainSt.Keeps.refl _
theorem Hub.Step.trans {a b c : Hub} (h1 : Hub.Step a b) (h2 : Hub.Step b c) : Hub.Step a c :=
  fun x => (h1 x).trans (h2 x)
theorem Hub.Keeps.trans {a b c : Hub} (h1 : Hub.Keeps a b) (h2 : Hub.Keeps b c) : Hub.Keeps a c :=
  fun x => (h1 x).trans (h2 x)

theorem Hub.Bounded.mono {h h' : Hub} (hb : h'.Bounded) (hs : Hub.Step h h') : h.Bounded :=
  fun c => (hb c).mono (hs c).mono (hs c).monoB

theorem Hub.Step.inv {h h' : Hub} (hs : Hub.Step h h') (hi : h.LedgerInv) (hb : h'.Bounded) : h'.LedgerInv :=
  Hub.ledgerInv_iff.mpr fun c => (hs c).inv (Hub.ledgerInv_iff.mp hi c) (hb c)

theorem ChainSt.inv_empty : ({} : ChainSt).Inv :=
  ⟨List.nodup_nil, (fun _ h => by cases h), List.nodup_nil, (fun _ h => by cases h)⟩

theorem initialHub_inv : initialHub.LedgerInv :=
  Hub.ledgerInv_iff.mpr fun c => by rw [initialHub_chain]; exact ChainSt.inv_empty

/-- `Hub.Bounded` and `Hub.LedgerInv` in a form `decide` can check on a concrete state. -/
theorem Hub.bounded_of_all {h : Hub}
    (hall : (h.cs.all fun p => decide (p.2.lastSteId < 2 ^ 64) && decide (p.2.lastBatchNonce < 2 ^ 64)) = true) :
    h.Bounded :=
  forall_chain (P := ChainSt.Bounded) ⟨by decide, by decide⟩ fun q hq => by
    have := List.all_eq_true.mp hall q hq
    simp only [Bool.and_eq_true, decide_eq_true_eq] at this
    exact this

theorem Hub.ledgerInv_of_all {h : Hub}
    (hall : (h.cs.all fun p => decide (p.2.ids.Nodup) && p.2.ids.all (fun id => decide (1 ≤ id) && decide (id ≤ p.2.lastSteId))
      && decide ((p.2.batches.map (·.nonce)).Nodup) && p.2.batches.all (fun b => decide (b.nonce ≤ p.2.lastBatchNonce))) = true) :
    h.LedgerInv :=
  Hub.ledgerInv_iff.mpr <| forall_chain (P := ChainSt.Inv)
    ChainSt.inv_empty fun q hq => by
      have := List.all_eq_true.mp hall q hq
      simp only [Bool.and_eq_true, decide_eq_true_eq, List.all_eq_true] at this
      exact ⟨this.1.1.1, this.1.1.2, this.1.2, this.2⟩

theorem Hub.Keeps.of_cs {h h' : Hub} (e : h'.cs = h.cs) : Hub.Keeps h h' := by
  intro c; rw [chain_of_cs e]; exact ChainSt.Keeps.refl _
theorem Hub.Step.of_cs {h h' : Hub} (e : h'.cs = h.cs) : Hub.Step h h' := (Hub.Keeps.of_cs e).step

theorem Hub.Step.setChain {h : Hub} {c : String} {s : ChainSt} (hk : ChainSt.Step (h.chain c) s) :
    Hub.Step h (h.setChain c s) :=
  forall_chain_setChain (P := fun x t => ChainSt.Step (h.chain x) t) hk fun _ => ChainSt.Step.refl _

@[simp] theorem setStatus_cs (h : Hub) (tx : String) (st : Nat) (o : String) : (h.setStatus tx st o).cs = h.cs := rfl
@[simp] theorem credit_cs (h : Hub) (a d : String) (x : Int) : (h.credit a d x).cs = h.cs := rfl
@[simp] theorem setStatus_time (h : Hub) (tx : String) (st : Nat) (o : String) : (h.setStatus tx st o).time = h.time := rfl
@[simp] theorem credit_time (h : Hub) (a d : String) (x : Int) : (h.credit a d x).time = h.time := rfl
@[simp] theorem setChain_time (h : Hub) (c : String) (s : ChainSt) : (h.setChain c s).time = h.time := rfl

def Hub.OnlyChain (chain : String) (h h' : Hub) : Prop := ∀ c, chain ≠ c → h'.chain c = h.chain c

theorem Hub.OnlyChain.refl (chain : String) (h : Hub) : Hub.OnlyChain chain h h := fun _ _ => rfl
theorem Hub.OnlyChain.trans {chain : String} {a b c : Hub} (h1 : Hub.OnlyChain chain a b)
    (h2 : Hub.OnlyChain chain b c) : Hub.OnlyChain chain a c := fun x hx => (h2 x hx).trans (h1 x hx)
theorem Hub.OnlyChain.of_cs {chain : String} {h h' : Hub} (e : h'.cs = h.cs) : Hub.OnlyChain chain h h' :=
  fun c _ => chain_of_cs e c
theorem Hub.OnlyChain.setChain (h : Hub) (chain : String) (s : ChainSt) :
    Hub.OnlyChain chain h (h.setChain chain s) := fun _ hc => chain_setChain_ne _ _ hc

theorem Hub.Keeps.of_only {h h' : Hub} {chain : String} (hk : ChainSt.Keeps (h.chain chain) (h'.chain chain))
    (ho : Hub.OnlyChain chain h h') : Hub.Keeps h h' := fun c => by
  by_cases hc : chain = c
  · subst hc; exact hk
  · rw [ho c hc]; exact ChainSt.Keeps.refl _

/-! ### Operations that leave pools, batches and their counters alone -/

def Hub.SameLedger (h h' : Hub) : Prop :=
  ∀ c, (h'.chain c).pool = (h.chain c).pool ∧ (h'.chain c).batches = (h.chain c).batches ∧
    (h'.chain c).lastSteId = (h.chain c).lastSteId ∧ (h'.chain c).lastBatchNonce = (h.chain c).lastBatchNonce

theorem Hub.SameLedger.refl (h : Hub) : Hub.SameLedger h h := fun _ => ⟨rfl, rfl, rfl, rfl⟩
theorem Hub.SameLedger.trans {a b c : Hub} (h1 : Hub.SameLedger a b) (h2 : Hub.SameLedger b c) :
    Hub.SameLedger a c := fun x => by
  obtain ⟨a1, a2, a3, a4⟩ := h1 x
  obtain ⟨b1, b2, b3, b4⟩ := h2 x
  exact ⟨b1.trans a1, b2.trans a2, b3.trans a3, b4.trans a4⟩

theorem Hub.SameLedger.of_cs {h h' : Hub} (e : h'.cs = h.cs) : Hub.SameLedger h h' := fun c => by
  rw [chain_of_cs e]; exact ⟨rfl, rfl, rfl, rfl⟩

theorem Hub.SameLedger.setChain {h : Hub} {c : String} {s : ChainSt} (h1 : s.pool = (h.chain c).pool)
    (h2 : s.batches = (h.chain c).batches) (h3 : s.lastSteId = (h.chain c).lastSteId)
    (h4 : s.lastBatchNonce = (h.chain c).lastBatchNonce) : Hub.SameLedger h (h.setChain c s) :=
  forall_chain_setChain
    (P := fun x t => t.pool = (h.chain x).pool ∧ t.batches = (h.chain x).batches ∧
      t.lastSteId = (h.chain x).lastSteId ∧ t.lastBatchNonce = (h.chain x).lastBatchNonce)
    ⟨h1, h2, h3, h4⟩ fun _ => ⟨rfl, rfl, rfl, rfl⟩

theorem ChainSt.entries_of_same {c c' : ChainSt} (hp : c'.pool = c.pool) (hb : c'.batches = c.batches) :
    c'.entries = c.entries := by
  simp [ChainSt.entries, hp, hb]

theorem ChainSt.Keeps.of_same {c c' : ChainSt} (hp : c'.pool = c.pool) (hb : c'.batches = c.batches)
    (h1 : c'.lastSteId = c.lastSteId) (h2 : c'.lastBatchNonce = c.lastBatchNonce) : ChainSt.Keeps c c' := by
  have he := ChainSt.entries_of_same hp hb
  refine .of_perm (new := []) (by omega) (by omega) (by rw [h1, Nat.sub_self]; rfl) (fun s hs => .inr (he ▸ hs))
    fun hi _ => ?_
  rw [he, hb, h2]
  exact ⟨List.Perm.refl _, hi.bnodup, hi.brange⟩

theorem Hub.SameLedger.keeps {h h' : Hub} (hs : Hub.SameLedger h h') : Hub.Keeps h h' := fun c =>
  ChainSt.Keeps.of_same (hs c).1 (hs c).2.1 (hs c).2.2.1 (hs c).2.2.2

/-! ### `createSendToExternal` -/

theorem createSte_eff {h h' : Hub} {chain sender rcp denom tx rc ra : String} {a f cm : Int} {id : Nat}
    (hok : h.createSte chain sender rcp denom a f cm tx rc ra = .ok (h', id)) :
    ∃ ste : Ste, ste.id = (h.chain chain).lastSteId + 1 ∧ id = ste.id ∧ ste.createdAt = h.time ∧
      (h'.chain chain).pool = insertByKey poolKey ste (h.chain chain).pool ∧
      (h'.chain chain).batches = (h.chain chain).batches ∧
      (h'.chain chain).lastSteId = ste.id ∧
      (h'.chain chain).lastBatchNonce = (h.chain chain).lastBatchNonce ∧
      ∀ c, chain ≠ c → h'.chain c = h.chain c := by
  obtain ⟨tok, hb, _, hburn, hn, rfl⟩ := createSte_ok hok
  have hf := burnFrom_frame hburn
  have hc : ∀ c, hb.chain c = h.chain c := chain_of_cs (by rw [hf])
  refine ⟨hb.newSte chain sender rcp tok a f cm tx rc ra, congrArg (· + 1) (congrArg ChainSt.lastSteId (hc chain)), hn,
    by rw [hf]; rfl, ?_, ?_, ?_, ?_, fun c hne => ?_⟩
  · rw [chain_setChain, ← hc chain]
  · rw [chain_setChain, ← hc chain]
  · rw [chain_setChain]; exact hn
  · rw [chain_setChain, ← hc chain]
  · rw [chain_setChain_ne _ _ hne, hc]

theorem createSte_status {h h' : Hub} {chain sender rcp denom tx rc ra : String} {a f cm : Int} {id : Nat}
    (hok : h.createSte chain sender rcp denom a f cm tx rc ra = .ok (h', id)) :
    h'.status = h.status ∧ h'.time = h.time := by
  obtain ⟨_, hb, _, hburn, _, rfl⟩ := createSte_ok hok
  rw [burnFrom_frame hburn]
  exact ⟨rfl, rfl⟩

theorem createSte_keeps {h h' : Hub} {chain sender rcp denom tx rc ra : String} {a f cm : Int} {id : Nat}
    (hok : h.createSte chain sender rcp denom a f cm tx rc ra = .ok (h', id)) : Hub.Keeps h h' := by
  obtain ⟨ste, hid, _, _, e1, e2, e3, e4, e5⟩ := createSte_eff hok
  exact Hub.Keeps.of_only (ChainSt.Keeps.addPool hid e3 e4 e1 e2) e5

/-! ### Batches -/

theorem buildBatch_eff (h : Hub) (chain tok : String) (n : Nat) :
    ((h.buildBatch chain tok n).2 = none ∧ (h.buildBatch chain tok n).1 = h) ∨
    ∃ b, (h.buildBatch chain tok n).2 = some b ∧
      b.txs = selectForBatch (h.chain chain).pool tok n ∧ b.extToken = tok ∧
      b.nonce = (h.chain chain).lastBatchNonce + 1 ∧
      ((h.buildBatch chain tok n).1.chain chain).batches = insertByKey batchKey b (h.chain chain).batches ∧
      ((h.buildBatch chain tok n).1.chain chain).pool =
        b.txs.foldl (fun p s => eraseByKey poolKey (poolKey s) p) (h.chain chain).pool ∧
      ((h.buildBatch chain tok n).1.chain chain).lastSteId = (h.chain chain).lastSteId ∧
      ((h.buildBatch chain tok n).1.chain chain).lastBatchNonce = b.nonce := by
  rw [buildBatch_eq]
  by_cases he : (selectForBatch (h.chain chain).pool tok n).isEmpty = true
  · rw [if_pos he]; exact .inl ⟨rfl, rfl⟩
  · rw [if_neg he]
    refine .inr ⟨_, rfl, rfl, rfl, rfl, ?_, ?_, ?_, ?_⟩ <;> (dsimp only; rw [chain_setChain])

theorem buildBatch_only (h : Hub) (chain tok : String) (n : Nat) :
    Hub.OnlyChain chain h (h.buildBatch chain tok n).1 := by
  rw [buildBatch_eq]
  by_cases he : (selectForBatch (h.chain chain).pool tok n).isEmpty = true
  · rw [if_pos he]; exact Hub.OnlyChain.refl _ _
  · rw [if_neg he]
    exact (Hub.OnlyChain.of_cs (by rw [markBatched_frame])).trans (Hub.OnlyChain.setChain _ _ _)

theorem buildBatch_keeps (h : Hub) (chain tok : String) (n : Nat) : Hub.Keeps h (h.buildBatch chain tok n).1 := by
  refine Hub.Keeps.of_only ?_ (buildBatch_only h chain tok n)
  rcases buildBatch_eff h chain tok n with ⟨_, e⟩ | ⟨b, _, htx, _, hbn, hbs, hp, hl, hln⟩
  · rw [e]; exact ChainSt.Keeps.refl _
  · exact ChainSt.Keeps.buildBatch (fun s hs => (mem_selectForBatch (htx ▸ hs)).1)
      (fun hn => htx ▸ selectForBatch_nodup tok n hn) hbn hl hln hp hbs

theorem cancelBatch_eff {h h' : Hub} {chain tok : String} {n : Nat} (hok : h.cancelBatch chain tok n = .ok h') :
    ∃ b, h.findBatch chain tok n = some b ∧
      (h'.chain chain).pool = b.txs.foldl (fun p s => insertByKey poolKey s p) (h.chain chain).pool ∧
      (h'.chain chain).batches = eraseByKey batchKey (batchKey b) (h.chain chain).batches ∧
      (h'.chain chain).lastSteId = (h.chain chain).lastSteId ∧
      (h'.chain chain).lastBatchNonce = (h.chain chain).lastBatchNonce ∧
      (h'.chain chain).obsExtHeight = (h.chain chain).obsExtHeight ∧
      ∀ c, chain ≠ c → h'.chain c = h.chain c := by
  obtain ⟨_, b, hb, rfl⟩ := cancelBatch_ok hok
  refine ⟨b, hb, ?_, ?_, ?_, ?_, ?_, fun c hc => chain_setChain_ne _ _ hc⟩ <;> rw [chain_setChain]

theorem cancelBatch_keeps {h h' : Hub} {chain tok : String} {n : Nat} (hok : h.cancelBatch chain tok n = .ok h') :
    Hub.Keeps h h' := by
  obtain ⟨b, hb, e1, e2, e3, e4, _, e6⟩ := cancelBatch_eff hok
  exact Hub.Keeps.of_only (ChainSt.Keeps.cancelBatch (findBatch_some hb).1 e3 e4 e1 e2) e6

/-! ### Refunded is final -/

def Hub.RefundedKept (h h' : Hub) : Prop := ∀ tx, h.statusOf tx = stRefunded → h'.statusOf tx = stRefunded

theorem Hub.RefundedKept.refl (h : Hub) : Hub.RefundedKept h h := fun _ e => e
theorem Hub.RefundedKept.trans {a b c : Hub} (h1 : Hub.RefundedKept a b) (h2 : Hub.RefundedKept b c) :
    Hub.RefundedKept a c := fun tx e => h2 tx (h1 tx e)
theorem Hub.RefundedKept.of_status {h h' : Hub} (e : h'.status = h.status) : Hub.RefundedKept h h' := by
  intro tx ht; simpa [Hub.statusOf, e] using ht

theorem setStatus_rk (h : Hub) (tx : String) (st : Nat) (o : String) : Hub.RefundedKept h (h.setStatus tx st o) := by
  intro tx' ht
  unfold Hub.setStatus
  by_cases hx : tx = tx'
  · subst hx
    have : (if h.statusOf tx == stRefunded then stRefunded else st) = stRefunded := by simp [ht]
    simpa [Hub.statusOf] using this
  · simp only [Hub.statusOf, alGet_alSet_other _ _ _ _ hx]
    exact ht

theorem buildBatch_rk (h : Hub) (chain tok : String) (n : Nat) : Hub.RefundedKept h (h.buildBatch chain tok n).1 := by
  rw [buildBatch_eq]
  by_cases he : (selectForBatch (h.chain chain).pool tok n).isEmpty = true
  · rw [if_pos he]; exact Hub.RefundedKept.refl _
  · rw [if_neg he]
    refine Hub.RefundedKept.trans ?_ (Hub.RefundedKept.of_status rfl : Hub.RefundedKept _ (Hub.setChain _ chain _))
    exact foldl_rel Hub.RefundedKept Hub.RefundedKept.refl Hub.RefundedKept.trans _
      (fun a s _ => setStatus_rk a _ _ _) h

/-! ### The handler-side moves -/

theorem Hub.Step.of_moves {h h' : Hub} (hm : Moves h h') : Hub.Step h h' := by
  induction hm with
  | refl => exact .refl _
  | trans _ _ ih1 ih2 => exact ih1.trans ih2
  | bank e => exact .of_cs (by rw [e])
  | status => exact .of_cs rfl
  | create _ _ _ hc => exact (createSte_keeps hc).step
  | erasePool => exact .setChain (.of_sublist rfl rfl (eraseByKey_sublist _ _ _) (List.Sublist.refl _))
  | cancelBatch hc => exact (cancelBatch_keeps hc).step
  | eraseBatch => exact .setChain (.of_sublist rfl rfl (List.Sublist.refl _) (eraseByKey_sublist _ _ _))
  | observedSet => exact .setChain (ChainSt.Keeps.toStep (.of_same rfl rfl rfl rfl))

theorem Hub.RefundedKept.of_moves {h h' : Hub} (hm : Moves h h') : Hub.RefundedKept h h' := by
  induction hm with
  | refl => exact .refl _
  | trans _ _ ih1 ih2 => exact ih1.trans ih2
  | bank e => exact .of_status (by rw [e])
  | status => exact setStatus_rk _ _ _ _
  | create _ _ _ hc => exact .of_status (createSte_status hc).1
  | cancelBatch hc => obtain ⟨_, _, _, rfl⟩ := cancelBatch_ok hc; exact .of_status rfl
  | erasePool | eraseBatch | observedSet => exact .of_status rfl

theorem Moves.time {h h' : Hub} (hm : Moves h h') : h'.time = h.time := by
  rw [hm.frame.1]

/-! ### `cancelSendToExternal` -/

theorem cancelFinish_step (h : Hub) (chain : String) (s : Ste) : Hub.Step h (h.cancelFinish chain s) :=
  .of_moves (cancelFinish_moves h chain s)

theorem cancelFinish_chain (h : Hub) (chain : String) (s : Ste) :
    ((h.cancelFinish chain s).chain chain).pool = eraseByKey poolKey (poolKey s) (h.chain chain).pool ∧
    ((h.cancelFinish chain s).chain chain).batches = (h.chain chain).batches ∧
    ((h.cancelFinish chain s).chain chain).lastSteId = (h.chain chain).lastSteId ∧
    ((h.cancelFinish chain s).chain chain).lastBatchNonce = (h.chain chain).lastBatchNonce ∧
    ∀ c, chain ≠ c → (h.cancelFinish chain s).chain c = h.chain c := by
  unfold Hub.cancelFinish
  simp only [chain_setChain]
  have e : ∀ c, (h.setStatus s.txHash stRefunded "").chain c = h.chain c := fun c => chain_of_cs rfl c
  refine ⟨by rw [e], by rw [e], by rw [e], by rw [e], fun c hc => ?_⟩
  rw [chain_setChain_ne _ _ hc, e]

theorem cancelSte_step (h : Hub) (chain : String) (id : Nat) (sender : String) :
    Hub.Step h (h.cancelSte chain id sender).1 :=
  .of_moves (cancelSte_moves h chain id sender)

theorem cancelBatch_only {h h' : Hub} {chain tok : String} {n : Nat} (hok : h.cancelBatch chain tok n = .ok h') :
    Hub.OnlyChain chain h h' := by
  obtain ⟨_, b, _, rfl⟩ := cancelBatch_ok hok
  exact Hub.OnlyChain.setChain _ _ _

/-! ### Sequences of batch cancellations on one chain -/

/-- `h` evolved from `h0` by cancelling batches of `chain` that satisfy `P` (both states satisfy the
    invariant and the `uint64` bound). -/
structure CancelEvo (chain : String) (P : Batch → Prop) (h0 h : Hub) : Prop where
  inv0 : h0.LedgerInv
  bnd0 : h0.Bounded
  inv : h.LedgerInv
  bnd : h.Bounded
  keeps : Hub.Keeps h0 h
  only : Hub.OnlyChain chain h0 h
  bsub : (h.chain chain).batches.Sublist (h0.chain chain).batches
  removed : ∀ b ∈ (h0.chain chain).batches, b ∉ (h.chain chain).batches →
    P b ∧ ∀ t ∈ b.txs, t ∈ (h.chain chain).pool
  poolKeep : ∀ s ∈ (h0.chain chain).pool, s ∈ (h.chain chain).pool
  ctr : (h.chain chain).lastSteId = (h0.chain chain).lastSteId ∧
        (h.chain chain).lastBatchNonce = (h0.chain chain).lastBatchNonce ∧
        (h.chain chain).obsExtHeight = (h0.chain chain).obsExtHeight

theorem CancelEvo.refl (chain : String) (P : Batch → Prop) {h : Hub} (hi : h.LedgerInv) (hb : h.Bounded) :
    CancelEvo chain P h h :=
  ⟨hi, hb, hi, hb, Hub.Keeps.refl h, Hub.OnlyChain.refl _ _, List.Sublist.refl _,
   fun _ hb hnb => absurd hb hnb, fun _ hs => hs, rfl, rfl, rfl⟩

theorem CancelEvo.cancel {chain : String} {P : Batch → Prop} {h0 h h' : Hub} {tok : String} {n : Nat}
    (he : CancelEvo chain P h0 h) (hok : h.cancelBatch chain tok n = .ok h')
    (hP : ∀ b0 ∈ (h0.chain chain).batches, batchKey b0 = batchKeyOf tok n → P b0) :
    CancelEvo chain P h0 h' ∧
    (∀ b0 ∈ (h.chain chain).batches, batchKey b0 = batchKeyOf tok n → b0 ∉ (h'.chain chain).batches) := by
  have hkeeps := cancelBatch_keeps hok
  have honly := cancelBatch_only hok
  obtain ⟨b, hfb, e1, e2, e3, e4, e5, e6⟩ := cancelBatch_eff hok
  obtain ⟨hbm, hbk⟩ := findBatch_some hfb
  have hci := Hub.ledgerInv_iff.mp he.inv chain
  obtain ⟨hbp, hpp, _⟩ := ChainSt.cancelBatch_perm hbm e1 e2 hci (he.bnd chain)
  have hbnd' : h'.Bounded := by
    intro c
    by_cases hc : chain = c
    · subst hc; exact ⟨by rw [e3]; exact (he.bnd chain).1, by rw [e4]; exact (he.bnd chain).2⟩
    · rw [e6 c hc]; exact he.bnd c
  have hsub' : (h'.chain chain).batches.Sublist (h.chain chain).batches := by
    rw [e2]; exact eraseByKey_sublist _ _ _
  constructor
  · refine ⟨he.inv0, he.bnd0, hkeeps.step.inv he.inv hbnd', hbnd', he.keeps.trans hkeeps,
      he.only.trans honly, hsub'.trans he.bsub, ?_, ?_, ?_⟩
    · intro b1 hb1 hnb1
      by_cases hin : b1 ∈ (h.chain chain).batches
      · have : b1 = b := by
          rcases List.mem_cons.mp (hbp.subset hin) with h1 | h1
          · exact h1
          · exact absurd h1 hnb1
        subst this
        exact ⟨hP b1 hb1 hbk, fun t ht => hpp.symm.subset (List.mem_append_left _ ht)⟩
      · obtain ⟨hp1, hp2⟩ := he.removed b1 hb1 hin
        exact ⟨hp1, fun t ht => hpp.symm.subset (List.mem_append_right _ (hp2 t ht))⟩
    · intro s hs
      exact hpp.symm.subset (List.mem_append_right _ (he.poolKeep s hs))
    · rw [e3, e4, e5]; exact he.ctr
  · intro b0 hb0 hk0
    have : b0 = b := hci.batchKey_inj (he.bnd chain).2 hb0 hbm (hk0.trans hbk.symm)
    subst this
    have hnd : (b0 :: (h'.chain chain).batches).Nodup :=
      hbp.nodup (nodup_of_map (·.nonce) hci.bnodup)
    exact (List.nodup_cons.mp hnd).1

/-- A fold of steps each of which is either a no-op or the cancellation of the batch it visits.  `P`
    bounds what may be cancelled (a step that cancels `o` shows `P o`), `Q` what must be: where
    `Q o` holds the step is the cancellation itself, so `o` is gone afterwards. -/
theorem CancelEvo.fold {chain : String} {P Q : Batch → Prop} {f : Hub → Batch → M Hub} {h0 : Hub}
    (L : List Batch) (hL : ∀ o ∈ L, o ∈ (h0.chain chain).batches)
    (hf : ∀ h o h', o ∈ L → f h o = .ok h' →
      h' = h ∨ (P o ∧ h.cancelBatch chain o.extToken o.nonce = .ok h'))
    (hq : ∀ h o, o ∈ L → Q o → f h o = h.cancelBatch chain o.extToken o.nonce)
    {h h' : Hub} (he : CancelEvo chain P h0 h) (hok : L.foldlM f h = .ok h') :
    CancelEvo chain P h0 h' ∧ (h'.chain chain).batches.Sublist (h.chain chain).batches ∧
    ∀ o ∈ L, Q o → o ∉ (h'.chain chain).batches := by
  induction L generalizing h with
  | nil =>
    simp [pure, Except.pure] at hok; subst hok
    exact ⟨he, List.Sublist.refl _, fun _ ho => by cases ho⟩
  | cons o os ih =>
    obtain ⟨h1, hs1, hs2⟩ := foldlM_cons_ok hok
    have hom : o ∈ (h0.chain chain).batches := hL o List.mem_cons_self
    have hkey : ∀ b0 ∈ (h0.chain chain).batches, batchKey b0 = batchKeyOf o.extToken o.nonce → b0 = o := by
      intro b0 hb0 hk
      exact (Hub.ledgerInv_iff.mp he.inv0 chain).batchKey_inj (he.bnd0 chain).2 hb0 hom hk
    have hstep : CancelEvo chain P h0 h1 ∧ (h1.chain chain).batches.Sublist (h.chain chain).batches ∧
        (Q o → o ∉ (h1.chain chain).batches) := by
      rcases hf h o h1 List.mem_cons_self hs1 with heq | ⟨hPo, hc⟩
      · subst heq
        refine ⟨he, List.Sublist.refl _, fun hQ => ?_⟩
        have hc := hq h1 o List.mem_cons_self hQ
        rw [hs1] at hc
        -- a successful cancellation that returns the same state is impossible
        obtain ⟨b, hfb, e1, e2, _⟩ := cancelBatch_eff hc.symm
        have hbp := (ChainSt.cancelBatch_perm (findBatch_some hfb).1 e1 e2
          (Hub.ledgerInv_iff.mp he.inv chain) (he.bnd chain)).1
        have hlen := hbp.length_eq
        simp at hlen
      · obtain ⟨hev, hrm⟩ := he.cancel hc (fun b0 hb0 hk => by rw [hkey b0 hb0 hk]; exact hPo)
        obtain ⟨b, _, _, e2, _⟩ := cancelBatch_eff hc
        have hsl : (h1.chain chain).batches.Sublist (h.chain chain).batches := by
          rw [e2]; exact eraseByKey_sublist _ _ _
        refine ⟨hev, hsl, fun _ hin => ?_⟩
        by_cases hin0 : o ∈ (h.chain chain).batches
        · exact hrm o hin0 rfl hin
        · exact hin0 (hsl.subset hin)
    obtain ⟨hev1, hsub1, hq1⟩ := hstep
    obtain ⟨hev', hsub', hq'⟩ := ih (fun o ho => hL o (List.mem_cons_of_mem _ ho))
      (fun h o h' ho => hf h o h' (List.mem_cons_of_mem _ ho))
      (fun h o ho => hq h o (List.mem_cons_of_mem _ ho)) hev1 hs2
    refine ⟨hev', hsub'.trans hsub1, fun x hx hQ => ?_⟩
    rcases List.mem_cons.mp hx with hx | hx
    · subst hx; exact fun hin => hq1 hQ (hsub'.subset hin)
    · exact hq' x hx hQ


/-! ### Begin block -/

theorem cleanup_evo {h h' : Hub} {chain : String} (hi : h.LedgerInv) (hb : h.Bounded)
    (hok : h.cleanupTimedOutBatches chain = .ok h') :
    CancelEvo chain (fun b => b.timeout < (h.chain chain).obsExtHeight) h h' ∧
    ∀ o ∈ (h.chain chain).batches, o.timeout < (h.chain chain).obsExtHeight → o ∉ (h'.chain chain).batches := by
  unfold Hub.cleanupTimedOutBatches at hok
  obtain ⟨h1, _, h3⟩ := CancelEvo.fold (chain := chain)
    (P := fun b => b.timeout < (h.chain chain).obsExtHeight)
    (Q := fun b => b.timeout < (h.chain chain).obsExtHeight) (h0 := h)
    (h.chain chain).batches.reverse (fun o ho => List.mem_reverse.mp ho)
    (fun h2 o h2' _ hf => by
      by_cases hlt : o.timeout < (h.chain chain).obsExtHeight
      · rw [if_pos hlt] at hf; exact .inr ⟨hlt, hf⟩
      · rw [if_neg hlt] at hf; injection hf with hf; exact .inl hf.symm)
    (fun h2 o _ hQ => if_pos hQ)
    (CancelEvo.refl chain _ hi hb) hok
  exact ⟨h1, fun o ho => h3 o (List.mem_reverse.mpr ho)⟩

theorem SideWrite.frame {chain : String} {h h' : Hub} (hw : SideWrite chain h h') :
    Hub.SameLedger h h' ∧ Hub.OnlyChain chain h h' ∧ h'.status = h.status := by
  rcases hw with rfl | ⟨s, rfl, h1, h2, h3, h4, _⟩
  · exact ⟨Hub.SameLedger.refl _, Hub.OnlyChain.refl _ _, rfl⟩
  · exact ⟨Hub.SameLedger.setChain h1 h2 h3 h4, Hub.OnlyChain.setChain _ _ _, rfl⟩

def Hub.BatchesKept (c0 : String) (h h' : Hub) : Prop :=
  Hub.Keeps h h' ∧ (h.LedgerInv → h'.Bounded → ∀ b ∈ (h.chain c0).batches, b ∈ (h'.chain c0).batches)

theorem Hub.BatchesKept.refl (c0 : String) (h : Hub) : Hub.BatchesKept c0 h h :=
  ⟨Hub.Keeps.refl h, fun _ _ _ hb => hb⟩

theorem Hub.BatchesKept.trans {c0 : String} {a b c : Hub} (h1 : Hub.BatchesKept c0 a b)
    (h2 : Hub.BatchesKept c0 b c) : Hub.BatchesKept c0 a c := by
  refine ⟨h1.1.trans h2.1, fun hi hb x hx => ?_⟩
  have hbb := hb.mono h2.1.step
  exact h2.2 (h1.1.step.inv hi hbb) hb x (h1.2 hi hbb x hx)

theorem Hub.BatchesKept.of_same {c0 : String} {h h' : Hub} (hs : Hub.SameLedger h h') :
    Hub.BatchesKept c0 h h' :=
  ⟨hs.keeps, fun _ _ b hb => by rw [(hs c0).2.1]; exact hb⟩

theorem Hub.BatchesKept.of_only {c0 chain : String} {h h' : Hub} (hk : Hub.Keeps h h')
    (ho : Hub.OnlyChain chain h h') (hne : chain ≠ c0) : Hub.BatchesKept c0 h h' :=
  ⟨hk, fun _ _ b hb => by rw [ho c0 hne]; exact hb⟩

theorem buildBatch_bk (c0 : String) (h : Hub) (chain tok : String) (n : Nat) :
    Hub.BatchesKept c0 h (h.buildBatch chain tok n).1 := by
  by_cases hc : chain = c0
  · subst hc
    refine ⟨buildBatch_keeps h chain tok n, fun hi hb x hx => ?_⟩
    rcases buildBatch_eff h chain tok n with ⟨_, he⟩ | ⟨b, _, _, _, hbn, hbb, _, _, hl⟩
    · rw [he]; exact hx
    · have h2 := (hb chain).2
      rw [hl] at h2
      rw [hbb]
      exact ((Hub.ledgerInv_iff.mp hi chain).insertBatch_perm (by omega) h2).symm.subset (List.mem_cons_of_mem _ hx)
  · exact Hub.BatchesKept.of_only (buildBatch_keeps h chain tok n) (buildBatch_only h chain tok n) hc

/-- `CancelBatchTx` refuses chain "minter", so the sweep of timed-out batches cancels none there. -/
theorem cleanup_bk {h h' : Hub} {chain : String} (hok : h.cleanupTimedOutBatches chain = .ok h') :
    Hub.BatchesKept "minter" h h' ∧ Hub.OnlyChain chain h h' :=
  cleanup_rel (R := fun a b => Hub.BatchesKept "minter" a b ∧ Hub.OnlyChain chain a b)
    (fun a => ⟨.refl _ a, .refl _ a⟩) (fun h1 h2 => ⟨h1.1.trans h2.1, h1.2.trans h2.2⟩)
    (fun hf => ⟨.of_only (cancelBatch_keeps hf) (cancelBatch_only hf) (cancelBatch_ok hf).1, cancelBatch_only hf⟩)
    hok

theorem beginBlock_bk {h h' : Hub} (hok : h.beginBlock = .ok h') :
    Hub.BatchesKept "minter" h h' ∧ h'.chain "hub" = h.chain "hub" := by
  rw [beginBlock_eq] at hok
  refine foldlM_rel (fun a b => Hub.BatchesKept "minter" a b ∧ b.chain "hub" = a.chain "hub")
    (fun a => ⟨.refl _ a, rfl⟩) (fun h1 h2 => ⟨h1.1.trans h2.1, h2.2.trans h1.2⟩) _ (fun a chain a' _ hf => ?_) hok
  rcases beginStep_ok hf with ⟨_, rfl⟩ | ⟨hhub, _⟩
  · exact ⟨.refl _ _, rfl⟩
  · have := beginStep_rel (R := fun a b => Hub.BatchesKept "minter" a b ∧ Hub.OnlyChain chain a b)
      (fun a => ⟨.refl _ a, .refl _ a⟩) (fun h1 h2 => ⟨h1.1.trans h2.1, h1.2.trans h2.2⟩) cleanup_bk
      (fun a tok => ⟨buildBatch_bk _ a chain tok 100, buildBatch_only a chain tok 100⟩)
      (fun e => ⟨.of_same (createSignerSetTxs_side e).frame.1, (createSignerSetTxs_side e).frame.2.1⟩)
      (fun a => ⟨.of_same (pruneSignerSets_side a chain).frame.1, (pruneSignerSets_side a chain).frame.2.1⟩) hf
    exact ⟨this.1, this.2 "hub" hhub⟩

theorem beginBlock_rk {h h' : Hub} (hok : h.beginBlock = .ok h') : Hub.RefundedKept h h' :=
  beginBlock_rel Hub.RefundedKept.refl Hub.RefundedKept.trans (fun e => .of_moves (cleanup_moves e))
    (fun a chain tok => buildBatch_rk a chain tok 100)
    (fun hs => .of_status (createSignerSetTxs_side hs).frame.2.2)
    (fun a chain => .of_status (pruneSignerSets_side a chain).frame.2.2) hok

/-! ### `batchTxExecuted` -/

/-- What happens after the executed batch has been removed: status, fee-record and bank writes
    (which leave every chain's stores and the block time alone and keep "refunded" statuses) and
    `createSte` calls on chain "minter".  A finer trace than `Moves` for this phase alone: it has no
    erasure and names the chain of every `createSte`, which `PoolGrow`, `OnlyChain "minter"` and
    "no batch store changes" need and `Moves` does not give. -/
inductive MinterMints : Hub → Hub → Prop
  | refl (h : Hub) : MinterMints h h
  | frame {h h1 h' : Hub} : h1.cs = h.cs → h1.time = h.time → Hub.RefundedKept h h1 → MinterMints h1 h' → MinterMints h h'
  | create {h h1 h' : Hub} {sender rcp denom tx rc ra : String} {a f cm : Int} {id : Nat} :
      h.createSte "minter" sender rcp denom a f cm tx rc ra = .ok (h1, id) → MinterMints h1 h' → MinterMints h h'

theorem MinterMints.trans {a b c : Hub} (h1 : MinterMints a b) (h2 : MinterMints b c) : MinterMints a c := by
  induction h1 with
  | refl => exact h2
  | frame e1 e2 e3 _ ih => exact .frame e1 e2 e3 (ih h2)
  | create e _ ih => exact .create e (ih h2)

theorem MinterMints.of_cs {h h' : Hub} (e1 : h'.cs = h.cs) (e2 : h'.time = h.time)
    (e3 : Hub.RefundedKept h h') : MinterMints h h' :=
  .frame e1 e2 e3 (.refl _)

theorem MinterMints.bank {h h' : Hub} (e : h' = { h with bal := h'.bal, supply := h'.supply, feeRec := h'.feeRec }) :
    MinterMints h h' :=
  .of_cs (by rw [e]) (by rw [e]) (.of_status (by rw [e]))

theorem MinterMints.mintClosed : MintClosed MinterMints where
  refl := .refl
  trans := .trans
  bank := .bank
  status := fun a tx st o => .of_cs rfl rfl (setStatus_rk a tx st o)
  send := fun _ hc => .create hc (.refl _)

theorem batchExecuted_decomp {h h' : Hub} {chain tok tx payer : String} {n : Nat} {fp : Int}
    (hok : h.batchExecuted chain tok n tx fp payer = .ok h') :
    (h.findBatch chain tok n = none ∧ h' = h) ∨
    ∃ b v, h.findBatch chain tok n = some b ∧
      h.bexCancelOlder chain b = .ok v ∧
      MinterMints (v.setChain chain { (v.chain chain) with
        batches := eraseByKey batchKey (batchKey b) (v.chain chain).batches }) h' := by
  rcases batchExecuted_ok hok with e | ⟨b, v, hb, hv, hd⟩
  · exact .inl e
  · exact .inr ⟨b, v, hb, hv, bexDistribute_rel MinterMints.mintClosed hd⟩

theorem MinterMints.rel {R : Hub → Hub → Prop} (hrefl : ∀ a, R a a) (htrans : ∀ {a b c}, R a b → R b c → R a c)
    (hf : ∀ {a b : Hub}, b.cs = a.cs → b.time = a.time → R a b)
    (hc : ∀ {a b : Hub} {sender rcp denom tx rc ra : String} {x f cm : Int} {id : Nat},
      a.createSte "minter" sender rcp denom x f cm tx rc ra = .ok (b, id) → R a b)
    {a b : Hub} (h : MinterMints a b) : R a b := by
  induction h with
  | refl => exact hrefl _
  | frame e1 e2 _ _ ih => exact htrans (hf e1 e2) ih
  | create e _ ih => exact htrans (hc e) ih

theorem MinterMints.keeps {a b : Hub} (h : MinterMints a b) : Hub.Keeps a b :=
  h.rel Hub.Keeps.refl Hub.Keeps.trans (fun e _ => .of_cs e) createSte_keeps

theorem MinterMints.only {a b : Hub} (h : MinterMints a b) : Hub.OnlyChain "minter" a b :=
  h.rel (Hub.OnlyChain.refl _) Hub.OnlyChain.trans (fun e _ => .of_cs e) fun e => by
    obtain ⟨_, _, _, _, _, _, _, _, e5⟩ := createSte_eff e
    exact e5

theorem MinterMints.batches {a b : Hub} (h : MinterMints a b) (c : String) :
    (b.chain c).batches = (a.chain c).batches := by
  refine h.rel (R := fun a b => ∀ c, (b.chain c).batches = (a.chain c).batches) (fun _ _ => rfl)
    (fun h1 h2 c => (h2 c).trans (h1 c)) (fun e _ c => by rw [chain_of_cs e]) (fun e c => ?_) c
  obtain ⟨_, _, _, _, _, e2, _, _, e5⟩ := createSte_eff e
  by_cases hc : "minter" = c
  · subst hc; exact e2
  · rw [e5 c hc]

theorem bexCancelOlder_only {h v : Hub} {chain : String} {b : Batch}
    (hv : h.bexCancelOlder chain b = .ok v) : Hub.OnlyChain chain h v :=
  bexCancelOlder_rel (Hub.OnlyChain.refl chain) Hub.OnlyChain.trans (fun _ _ hf => cancelBatch_only hf) hv

theorem bexCancelOlder_evo {h v : Hub} {chain : String} {b : Batch} (hi : h.LedgerInv) (hb : h.Bounded)
    (hv : h.bexCancelOlder chain b = .ok v) :
    CancelEvo chain (fun o => o.nonce < b.nonce ∧ o.extToken = b.extToken) h v ∧
    (chain ≠ "minter" → ∀ o ∈ (h.chain chain).batches, o.nonce < b.nonce → o.extToken = b.extToken →
      o ∉ (v.chain chain).batches) ∧ (chain = "minter" → v = h) := by
  unfold Hub.bexCancelOlder at hv
  by_cases hne : (chain != "minter") = true
  · rw [if_pos hne] at hv
    obtain ⟨h1, _, h3⟩ := CancelEvo.fold (chain := chain)
      (P := fun o => o.nonce < b.nonce ∧ o.extToken = b.extToken) (Q := fun _ => True) (h0 := h) _
      (fun o ho => List.mem_reverse.mp (List.mem_filter.mp ho).1)
      (fun h2 o h2' ho hf => by
        have := (List.mem_filter.mp ho).2
        simp only [Bool.and_eq_true, decide_eq_true_eq, beq_iff_eq] at this
        exact .inr ⟨this, hf⟩)
      (fun _ _ _ _ => rfl) (CancelEvo.refl chain _ hi hb) hv
    refine ⟨h1, fun _ o ho h1' h2' => h3 o ?_ trivial, fun hc => absurd hc (by simpa using hne)⟩
    exact List.mem_filter.mpr ⟨List.mem_reverse.mpr ho, by simp [h1', h2']⟩
  · rw [if_neg hne] at hv
    injection hv with hv
    subst hv
    exact ⟨CancelEvo.refl chain _ hi hb, fun hc => absurd (by simpa using hne) hc, fun _ => rfl⟩

theorem batchExecuted_step {h h' : Hub} {chain tok tx payer : String} {n : Nat} {fp : Int}
    (hok : h.batchExecuted chain tok n tx fp payer = .ok h') :
    Hub.Step h h' :=
  .of_moves (batchExecuted_moves hok)

/-! ### Tally and end block -/

theorem markObserved_same (h : Hub) (chain : String) (r : VoteRec) (ht : Nat) :
    Hub.SameLedger h (h.setChain chain ((h.chain chain).markObserved r ht)) :=
  Hub.SameLedger.setChain rfl rfl rfl rfl

theorem endBlock_step {h h' : Hub} {mf : Bool} (hok : h.endBlock mf = .ok h') :
    Hub.Step h h' ∧ Hub.RefundedKept h h' :=
  endBlock_rel_moves (R := fun a b => Hub.Step a b ∧ Hub.RefundedKept a b) (fun a => ⟨.refl a, .refl a⟩)
    (fun x y => ⟨x.1.trans y.1, x.2.trans y.2⟩) (fun m => ⟨.of_moves m, .of_moves m⟩)
    (fun a c r => ⟨(markObserved_same a c r _).keeps.step, .of_status rfl⟩) hok

/-! ### Pools only grow while events are handled (used for "issued ids are live" at end block) -/

/-- State `h` inside an end block that started in `h0`: one ledger step away, same block time, and
    (under the invariant) every id issued since `h0` sits in a pool, stamped with that block time. -/
structure EndEvo (h0 h : Hub) : Prop where
  step : Hub.Step h0 h
  time : h.time = h0.time
  live : h0.LedgerInv → h.Bounded → ∀ c id, (h0.chain c).lastSteId < id → id ≤ (h.chain c).lastSteId →
    ∃ s ∈ (h.chain c).pool, s.id = id ∧ s.createdAt = h0.time

structure PoolGrow (h h' : Hub) : Prop extends EndEvo h h' where
  pool : h.LedgerInv → h'.Bounded → ∀ c, ∀ s ∈ (h.chain c).pool, s ∈ (h'.chain c).pool

theorem EndEvo.refl (h : Hub) : EndEvo h h := ⟨Hub.Step.refl h, rfl, fun _ _ _ _ h1 h2 => by omega⟩

theorem EndEvo.grow {h0 h h' : Hub} (he : EndEvo h0 h) (hg : PoolGrow h h') : EndEvo h0 h' := by
  refine ⟨he.step.trans hg.step, hg.time.trans he.time, fun hi0 hb c id hlo hhi => ?_⟩
  have hbh := hb.mono hg.step
  have hih := he.step.inv hi0 hbh
  by_cases hid : id ≤ (h.chain c).lastSteId
  · obtain ⟨s, hs, h3, h4⟩ := he.live hi0 hbh c id hlo hid
    exact ⟨s, hg.pool hih hb c s hs, h3, h4⟩
  · obtain ⟨s, hs, h3, h4⟩ := hg.live hih hb c id (by omega) hhi
    exact ⟨s, hs, h3, h4.trans he.time⟩

theorem PoolGrow.refl (h : Hub) : PoolGrow h h := ⟨.refl h, fun _ _ _ _ hs => hs⟩

theorem PoolGrow.trans {a b c : Hub} (h1 : PoolGrow a b) (h2 : PoolGrow b c) : PoolGrow a c := by
  refine ⟨h1.toEndEvo.grow h2, fun hi hb x s hs => ?_⟩
  have hbb := hb.mono h2.step
  exact h2.pool (h1.step.inv hi hbb) hb x s (h1.pool hi hbb x s hs)

theorem PoolGrow.of_same {h h' : Hub} (e : Hub.SameLedger h h') (et : h'.time = h.time) : PoolGrow h h' :=
  ⟨⟨e.keeps.step, et, fun _ _ c id h1 h2 => by have := (e c).2.2.1; omega⟩,
   fun _ _ c s hs => by rw [(e c).1]; exact hs⟩

theorem PoolGrow.of_cs {h h' : Hub} (e : h'.cs = h.cs) (et : h'.time = h.time) : PoolGrow h h' :=
  PoolGrow.of_same (Hub.SameLedger.of_cs e) et

theorem PoolGrow.of_only {h h' : Hub} {chain : String} (hs : Hub.Step h h') (ht : h'.time = h.time)
    (ho : Hub.OnlyChain chain h h')
    (hl : h.LedgerInv → h'.Bounded → ∀ id, (h.chain chain).lastSteId < id → id ≤ (h'.chain chain).lastSteId →
      ∃ s ∈ (h'.chain chain).pool, s.id = id ∧ s.createdAt = h.time)
    (hp : h.LedgerInv → h'.Bounded → ∀ s ∈ (h.chain chain).pool, s ∈ (h'.chain chain).pool) : PoolGrow h h' := by
  refine ⟨⟨hs, ht, fun hi hb c id h1 h2 => ?_⟩, fun hi hb c s hm => ?_⟩
  · by_cases hc : chain = c
    · subst hc; exact hl hi hb id h1 h2
    · rw [ho c hc] at h2; omega
  · by_cases hc : chain = c
    · subst hc; exact hp hi hb s hm
    · rw [ho c hc]; exact hm

theorem PoolGrow.createSte {h h' : Hub} {chain sender rcp denom tx rc ra : String} {a f cm : Int} {id : Nat}
    (hok : h.createSte chain sender rcp denom a f cm tx rc ra = .ok (h', id)) : PoolGrow h h' := by
  obtain ⟨ste, hid, _, hca, e1, e2, e3, _, e5⟩ := createSte_eff hok
  have hp := fun (hi : h.LedgerInv) (hb : h'.Bounded) =>
    (ChainSt.addPool_perm hid e3 e1 e2 (Hub.ledgerInv_iff.mp hi chain) (hb chain)).1
  refine .of_only (createSte_keeps hok).step (createSte_status hok).2 e5 (fun hi hb id' hlo hhi => ?_)
    fun hi hb s hs => (hp hi hb).symm.subset (List.mem_cons_of_mem _ hs)
  exact ⟨ste, (hp hi hb).symm.subset List.mem_cons_self, by omega, hca⟩

theorem PoolGrow.cancelBatch {h h' : Hub} {chain tok : String} {n : Nat}
    (hok : h.cancelBatch chain tok n = .ok h') : PoolGrow h h' := by
  obtain ⟨b, hfb, e1, e2, e3, e4, _, _⟩ := cancelBatch_eff hok
  refine .of_only (cancelBatch_keeps hok).step (Moves.time (.cancelBatch hok rfl)) (cancelBatch_only hok) (fun _ _ id h1 h2 => by omega)
    fun hi hb s hs => ?_
  have hbd : (h.chain chain).Bounded := ⟨by rw [← e3]; exact (hb chain).1, by rw [← e4]; exact (hb chain).2⟩
  exact (ChainSt.cancelBatch_perm (findBatch_some hfb).1 e1 e2 (Hub.ledgerInv_iff.mp hi chain) hbd).2.1.symm.subset
    (List.mem_append_right _ hs)

theorem PoolGrow.eraseBatch (v : Hub) (chain : String) (k : Bytes) :
    PoolGrow v (v.setChain chain { (v.chain chain) with batches := eraseByKey batchKey k (v.chain chain).batches }) := by
  refine .of_only (.setChain (.of_sublist rfl rfl (List.Sublist.refl _) (eraseByKey_sublist _ _ _))) rfl
    (Hub.OnlyChain.setChain _ _ _) (fun _ _ id h1 h2 => ?_) fun _ _ s hs => ?_
  · rw [chain_setChain] at h2; dsimp only at h2; omega
  · rw [chain_setChain]; exact hs

theorem MinterMints.poolGrow {a b : Hub} (h : MinterMints a b) : PoolGrow a b :=
  h.rel PoolGrow.refl PoolGrow.trans PoolGrow.of_cs PoolGrow.createSte

theorem batchExecuted_poolGrow {h h' : Hub} {chain tok tx payer : String} {n : Nat} {fp : Int}
    (hok : h.batchExecuted chain tok n tx fp payer = .ok h') : PoolGrow h h' := by
  rcases batchExecuted_decomp hok with ⟨_, rfl⟩ | ⟨b, v, _, hv, hm⟩
  · exact PoolGrow.refl _
  · exact ((bexCancelOlder_rel PoolGrow.refl PoolGrow.trans (fun _ _ => PoolGrow.cancelBatch) hv).trans
      (PoolGrow.eraseBatch v chain _)).trans hm.poolGrow

theorem handleSendToHub_cs {h h' : Hub} {chain coin receiver tx : String} {amount : Int}
    (hok : h.handleSendToHub chain coin amount receiver tx = .ok h') : h'.cs = h.cs ∧ h'.time = h.time := by
  obtain ⟨_, hm, _, _, _, hv, rfl⟩ := handleSendToHub_ok hok
  rw [mintTo_frame hv]; exact ⟨rfl, rfl⟩

theorem handle_poolGrow {h h' : Hub} {mf : Bool} {chain : String} {ev : Event}
    (hok : h.handle mf chain ev = .ok h') : PoolGrow h h' := by
  cases ev with
  | sendToHub n coin amount sender receiver height txHash =>
    exact .of_cs (handleSendToHub_cs hok).1 (handleSendToHub_cs hok).2
  | transfer n coin amount fee sender rchain receiver height txHash =>
    rcases (handle_transfer_ok hok).2 with ⟨_, _, e⟩ | ⟨_, v, _, _, _, _, hv, _, _, _, _, _, _, hc⟩
    · exact .of_cs (handleSendToHub_cs e).1 (handleSendToHub_cs e).2
    · exact (PoolGrow.of_cs (handleSendToHub_cs hv).1 (handleSendToHub_cs hv).2).trans (.createSte hc)
  | batchExecuted coin n bn height txHash feePaid feePayer => exact batchExecuted_poolGrow hok
  | contractCall n scope inv height => injection hok with hok; subst hok; exact .refl _
  | signerSet n sn height members txHash =>
    injection hok with hok; subst hok
    exact .of_same (Hub.SameLedger.setChain rfl rfl rfl rfl) rfl

/-- `cancelSte` either stops early, having at most minted the refund, or reaches a state `hm` (`h`
    up to bank writes, or after one `createSte` on the refund chain) in which it marks the entry
    refunded and deletes it.  Nothing is lost on the way to `hm`. -/
theorem cancelSte_mid (h : Hub) (chain : String) (id : Nat) (sender : String) :
    (∃ e, (h.cancelSte chain id sender).2 = some e ∧ PoolGrow h (h.cancelSte chain id sender).1) ∨
    ∃ s hm, h.cancelLookup chain id = some s ∧ h.cancelSte chain id sender = (hm.cancelFinish chain s, none) ∧
      Hub.Keeps h hm ∧ PoolGrow h hm ∧ ∀ c, (hm.chain c).lastSteId ≤ (h.chain c).lastSteId + 1 := by
  have hcs : ∀ acc d t, (h.bankWrite acc d t).cs = h.cs ∧ (h.bankWrite acc d t).time = h.time :=
    fun acc d t => ⟨(bankWrite_fields h acc d t).1, (bankWrite_fields h acc d t).2.2⟩
  have hub : ∀ acc d t, Hub.Keeps h (h.bankWrite acc d t) ∧ PoolGrow h (h.bankWrite acc d t) ∧
      ∀ c, ((h.bankWrite acc d t).chain c).lastSteId ≤ (h.chain c).lastSteId + 1 := fun acc d t =>
    ⟨.of_cs (hcs acc d t).1, .of_cs (hcs acc d t).1 (hcs acc d t).2, fun c => by rw [chain_of_cs (hcs acc d t).1]; omega⟩
  rcases cancelSte_cases h chain id sender with
    ⟨_, e, _⟩ | ⟨s, hl, _, _, ⟨_, e⟩ | ⟨_, e⟩ | ⟨_, _, ⟨_, _, e⟩ | ⟨h2, _, hc, e⟩⟩⟩
  · rw [e]; exact .inl ⟨_, rfl, .refl _⟩
  · exact .inr ⟨s, _, hl, e, hub _ _ _⟩
  · exact .inr ⟨s, _, hl, e, hub _ _ _⟩
  · rw [e]; exact .inl ⟨_, rfl, (hub _ _ _).2.1⟩
  · obtain ⟨ste, hid, _, _, _, _, e3, _, e5⟩ := createSte_eff hc
    refine .inr ⟨s, h2, hl, e, (hub _ _ _).1.trans (createSte_keeps hc), (hub _ _ _).2.1.trans (.createSte hc), fun c => ?_⟩
    by_cases hx : s.refundChain = c
    · subst hx; rw [e3, hid, chain_of_cs (hcs _ _ _).1]; omega
    · rw [e5 c hx, chain_of_cs (hcs _ _ _).1]; omega

theorem EndEvo.cancelFinish {h0 h : Hub} (he : EndEvo h0 h) (chain : String) (s : Ste)
    (hsafe : h0.LedgerInv → (h.cancelFinish chain s).Bounded → s.id ≤ (h0.chain chain).lastSteId) :
    EndEvo h0 (h.cancelFinish chain s) := by
  obtain ⟨f1, _, f3, _, f5⟩ := cancelFinish_chain h chain s
  refine ⟨he.step.trans (cancelFinish_step h chain s), he.time, fun hi0 hb c id hlo hhi => ?_⟩
  have hbh : h.Bounded := hb.mono (cancelFinish_step h chain s)
  by_cases hc : chain = c
  · subst hc
    rw [f3] at hhi
    obtain ⟨s', hs', h3, h4⟩ := he.live hi0 hbh chain id hlo hhi
    refine ⟨s', ?_, h3, h4⟩
    rw [f1]
    -- the key of a live entry is not the key of `s`: their ids differ
    refine mem_eraseByKey_of_ne poolKey hs' fun hk => ?_
    have := hsafe hi0 hb
    have := (hbh chain).1
    have := Mhub2.poolKey_inj hk (by omega) (by omega)
    omega
  · rw [f5 c hc] at hhi ⊢
    exact he.live hi0 hbh c id hlo hhi

theorem EndEvo.cancelSte {h0 h : Hub} (he : EndEvo h0 h) (chain : String) (id : Nat) (sender : String)
    (hsafe : h0.LedgerInv → (h.cancelSte chain id sender).1.Bounded → id ≤ (h0.chain chain).lastSteId) :
    EndEvo h0 (h.cancelSte chain id sender).1 := by
  rcases cancelSte_mid h chain id sender with ⟨_, _, hg⟩ | ⟨s, hm, hl, e, _, hg, _⟩
  · exact he.grow hg
  · obtain ⟨_, rfl⟩ := cancelLookup_some hl
    rw [e] at hsafe ⊢
    exact (he.grow hg).cancelFinish chain s hsafe

theorem tally_poolGrow {h h' : Hub} {mf : Bool} {chain : String} (hok : h.tally mf chain = .ok h') :
    PoolGrow h h' :=
  tally_rel PoolGrow.refl PoolGrow.trans handle_poolGrow (fun a r => .of_same (markObserved_same a chain r _) rfl) hok

theorem refundExpired_endEvo {h0 hr h' : Hub} {chain : String} (he : EndEvo h0 hr)
    (hok : hr.refundExpired chain = .ok h') : EndEvo h0 h' := by
  -- `EndEvo h0 ·` is not a relation between the two ends of a step; "preserves it" is, and is what
  -- the rule lemma carries through the sweep (with the step from `hr`, needed for the bound)
  refine (refundExpired_rel (R := fun a b => (EndEvo h0 a ∧ Hub.Step hr a) → (EndEvo h0 b ∧ Hub.Step hr b))
    (fun _ h => h) (fun h1 h2 h => h2 (h1 h)) (fun a s hsr hexp ⟨hea, hsa⟩ => ?_) hok ⟨he, Hub.Step.refl hr⟩).1
  have hcs := cancelSte_step a chain s.id s.sender
  -- an expired entry was not created during this end block
  refine ⟨hea.cancelSte chain s.id s.sender (fun hi0 hb' => ?_), hsa.trans hcs⟩
  have hba : a.Bounded := hb'.mono hcs
  have hbr : hr.Bounded := hba.mono hsa
  have hir := he.step.inv hi0 hbr
  have hcr := Hub.ledgerInv_iff.mp hir chain
  have hse : s ∈ (hr.chain chain).entries := ChainSt.mem_entries.mpr (.inl hsr)
  apply Classical.byContradiction
  intro hlt
  obtain ⟨s', hs', h3, h4⟩ := he.live hi0 hbr chain s.id (by omega) (hcr.entry_le hse)
  have : s' = s := hcr.entry_inj (ChainSt.mem_entries.mpr (.inl hs')) hse h3
  subst this
  rw [hea.time, h4] at hexp
  omega

theorem endBlock_endEvo {h h' : Hub} {mf : Bool} (hok : h.endBlock mf = .ok h') : EndEvo h h' := by
  unfold Hub.endBlock at hok
  have key := foldlM_rel (fun a b => EndEvo h a → EndEvo h b) (fun _ e => e) (fun h1 h2 e => h2 (h1 e)) _ ?_ hok
  · exact key (EndEvo.refl h)
  · intro a chain a' _ hf hea
    obtain ⟨v, hv, hf⟩ := bind_ok hf
    exact refundExpired_endEvo (hea.grow (tally_poolGrow hv)) hf

/-! ### The operations of a history -/

theorem OpOk.keepsR {h h' : Hub} {op : Op} (hok : OpOk h op h') (hc : ∀ s c i, op ≠ .cancel s c i)
    (he : op ≠ .endBlock) : Hub.Keeps h h' ∧ Hub.RefundedKept h h' := by
  cases hok with
  | chains | token | param | gravityId | price | holder | staking | block => exact ⟨.of_cs rfl, .of_status rfl⟩
  | fund e => exact ⟨.of_cs (by rw [mintTo_frame e]), .of_status (by rw [mintTo_frame e])⟩
  | beginBlock e => exact ⟨(beginBlock_bk e).1.1, beginBlock_rk e⟩
  | endBlock => exact absurd rfl he
  | send e =>
    obtain ⟨_, _, _, _, _, _, _, _, _, e⟩ := sendToExternal_ok e
    exact ⟨createSte_keeps e, .of_status (createSte_status e).1⟩
  | cancel => exact absurd rfl (hc _ _ _)
  | reqBatch e =>
    obtain ⟨_, t, _, e⟩ := requestBatch_ok e
    rw [show h' = (h.buildBatch _ t.extId 100).1 by rw [e]]
    exact ⟨buildBatch_keeps _ _ _ _, buildBatch_rk _ _ _ _⟩
  | vote _ e => exact ⟨(submitEvent_side e).frame.1.keeps, .of_status (submitEvent_side e).frame.2.2⟩
  | confirm e => exact ⟨(confirm_side e).frame.1.keeps, .of_status (confirm_side e).frame.2.2⟩
  | delegate e => exact ⟨(setDelegateKeys_side e).frame.1.keeps, .of_status (setDelegateKeys_side e).frame.2.2⟩

theorem apply_keepsR (h : Hub) (op : Op) (hr : op ≠ .reset) (hc : ∀ s c i, op ≠ .cancel s c i)
    (he : op ≠ .endBlock) : Hub.Keeps h (apply h op).1 ∧ Hub.RefundedKept h (apply h op).1 := by
  rcases apply_cases h op with e | e | e
  · rw [e]; exact ⟨.refl _, .refl _⟩
  · exact absurd e hr
  · exact e.keepsR hc he

theorem apply_step (h : Hub) (op : Op) (hr : op ≠ .reset) :
    Hub.Step h (apply h op).1 ∧ Hub.RefundedKept h (apply h op).1 := by
  rcases apply_cases h op with e | e | e
  · rw [e]; exact ⟨Hub.Step.refl _, Hub.RefundedKept.refl _⟩
  · exact absurd e hr
  · generalize (apply h op).1 = h' at e ⊢
    have hk := e.keepsR  -- stated for all operations before `cases` fixes one
    cases e with
    | endBlock e => exact endBlock_step e
    | cancel e => exact ⟨.of_moves (cancelMsg_moves e), .of_moves (cancelMsg_moves e)⟩
    | _ =>
      have := hk (fun _ _ _ e => by cases e) (fun e => by cases e)
      exact ⟨this.1.step, this.2⟩

/-! ### Exact accounts -/

/-- Exact effect of a successful cancel under the invariant: the id was in the pool and is nowhere
    on its chain afterwards; on every chain the ids afterwards (plus, on the cancelled transfer's
    chain, the cancelled id) are the ids before plus the at most one id issued meanwhile (the
    re-routed refund, on the refund chain). -/
theorem cancelSte_effect {h h' : Hub} {chain sender : String} {id : Nat}
    (hi : h.LedgerInv) (hb : h'.Bounded) (hok : h.cancelSte chain id sender = (h', none)) :
    id ∈ (h.chain chain).pool.map (·.id) ∧ id ∉ (h'.chain chain).ids ∧
    ∀ c, (h.chain c).lastSteId ≤ (h'.chain c).lastSteId ∧ (h'.chain c).lastSteId ≤ (h.chain c).lastSteId + 1 ∧
      (if chain = c then id :: (h'.chain c).ids else (h'.chain c).ids).Perm
        (List.range' ((h.chain c).lastSteId + 1) ((h'.chain c).lastSteId - (h.chain c).lastSteId) ++
          (h.chain c).ids) := by
  rcases cancelSte_mid h chain id sender with ⟨_, e, _⟩ | ⟨s, hm, hl, e, hk, hg, hle⟩
  · rw [hok] at e; cases e
  obtain rfl : h' = hm.cancelFinish chain s := (Prod.mk.inj (hok.symm.trans e)).1
  obtain ⟨hsm, hsid⟩ := cancelLookup_some hl
  obtain ⟨f1, f2, f3, _, f5⟩ := cancelFinish_chain hm chain s
  have hbm : hm.Bounded := hb.mono (cancelFinish_step hm chain s)
  have him := Hub.ledgerInv_iff.mp (hk.step.inv hi hbm) chain
  have p : (hm.chain chain).ids.Perm (id :: ((hm.cancelFinish chain s).chain chain).ids) := by
    rw [ChainSt.ids_eq, ChainSt.ids_eq, ← hsid]
    exact (ChainSt.erasePool_perm (hg.pool hi hbm chain s hsm) f1 f2 him (hbm chain).1).map _
  refine ⟨List.mem_map.mpr ⟨s, hsm, hsid⟩, (List.nodup_cons.mp (p.nodup him.nodup)).1, fun c => ?_⟩
  have hkp := (hk c).ids_perm (Hub.ledgerInv_iff.mp hi c) (hbm c)
  by_cases hc : chain = c
  · subst hc; rw [if_pos rfl, f3]; exact ⟨(hk chain).mono, hle chain, p.symm.trans hkp⟩
  · rw [if_neg hc, f5 c hc]; exact ⟨(hk c).mono, hle c, hkp⟩

theorem batchExecuted_exact {h h' : Hub} {chain tok tx payer : String} {n : Nat} {fp : Int} {b : Batch}
    (hi : h.LedgerInv) (hb : h'.Bounded)
    (hok : h.batchExecuted chain tok n tx fp payer = .ok h') (hfb : h.findBatch chain tok n = some b) :
    (∀ o ∈ (h.chain chain).batches, o ∉ (h'.chain chain).batches ↔
      (o = b ∨ (chain ≠ "minter" ∧ o.extToken = b.extToken ∧ o.nonce < b.nonce))) ∧
    (∀ o ∈ (h'.chain chain).batches, o ∈ (h.chain chain).batches) ∧
    (∀ o ∈ (h.chain chain).batches, chain ≠ "minter" → o.extToken = b.extToken → o.nonce < b.nonce →
      ∀ t ∈ o.txs, t ∈ (h'.chain chain).pool) ∧
    (∀ s ∈ (h.chain chain).pool, s ∈ (h'.chain chain).pool) ∧
    (∀ t ∈ b.txs, t.id ∉ (h'.chain chain).ids) := by
  rcases batchExecuted_decomp hok with ⟨hnone, _⟩ | ⟨b', v, hfb', hv, hm⟩
  · rw [hnone] at hfb; cases hfb
  rw [hfb] at hfb'; injection hfb' with hbb; subst hbb
  obtain ⟨hev, hall, hmin⟩ := bexCancelOlder_evo hi (hb.mono (batchExecuted_step hok)) hv
  have hcv := Hub.ledgerInv_iff.mp hev.inv chain
  have hbm := (findBatch_some hfb).1
  -- `b` itself survived the cancellations
  have hbv : b ∈ (v.chain chain).batches := Classical.byContradiction fun hn => by
    have := (hev.removed b hbm hn).1.1
    omega
  have hg : PoolGrow v h' := (PoolGrow.eraseBatch v chain _).trans hm.poolGrow
  have hbp : (v.chain chain).batches.Perm (b :: (h'.chain chain).batches) := by
    rw [hm.batches, chain_setChain]; exact hcv.eraseBatch_perm (hev.bnd chain).2 hbv
  have hsub : ∀ o ∈ (h'.chain chain).batches, o ∈ (v.chain chain).batches := fun o ho =>
    hbp.symm.subset (List.mem_cons_of_mem _ ho)
  refine ⟨fun o ho => ⟨fun hout => ?_, fun hcase => ?_⟩, fun o ho => hev.bsub.subset (hsub o ho), ?_, ?_, ?_⟩
  · by_cases hov : o ∈ (v.chain chain).batches
    · rcases List.mem_cons.mp (hbp.subset hov) with h1 | h1
      · exact .inl h1
      · exact absurd h1 hout
    · obtain ⟨⟨hp1, hp2⟩, _⟩ := hev.removed o ho hov
      exact .inr ⟨fun hc => hov (by rw [hmin hc]; exact ho), hp2, hp1⟩
  · rcases hcase with h1 | ⟨hc, h2', h3⟩
    · subst h1; exact (List.nodup_cons.mp (hbp.nodup (nodup_of_map (·.nonce) hcv.bnodup))).1
    · exact fun hin => hall hc o ho h3 h2' (hsub o hin)
  · intro o ho hc h2' h3 t ht
    exact hg.pool hev.inv hb chain t ((hev.removed o ho (hall hc o ho h3 h2')).2 t ht)
  · intro s hs
    exact hg.pool hev.inv hb chain s (hev.poolKeep s hs)
  · intro t ht hid
    obtain ⟨_, hgone⟩ := ChainSt.eraseBatch_perm
      (c' := { v.chain chain with batches := eraseByKey batchKey (batchKey b) (v.chain chain).batches })
      hbv rfl rfl hcv (hev.bnd chain)
    rcases (hm.keeps chain).sub t.id hid with h1 | h1
    · rw [chain_setChain] at h1; exact hgone t ht h1
    · have := hcv.entry_le (ChainSt.mem_entries.mpr (.inr ⟨b, hbv, ht⟩))
      rw [chain_setChain] at h1
      dsimp only at h1
      omega

theorem batchExecuted_frame {h h' : Hub} {chain tok tx payer : String} {n : Nat} {fp : Int}
    (hok : h.batchExecuted chain tok n tx fp payer = .ok h') (hne : chain ≠ "minter") :
    (h'.chain chain).lastSteId = (h.chain chain).lastSteId ∧
    ChainSt.Keeps (h.chain "minter") (h'.chain "minter") := by
  rcases batchExecuted_decomp hok with ⟨_, rfl⟩ | ⟨b, v, _, hv, hm⟩
  · exact ⟨rfl, ChainSt.Keeps.refl _⟩
  · have ho := bexCancelOlder_only hv
    constructor
    · rw [hm.only chain (fun e => hne e.symm), chain_setChain]
      exact bexCancelOlder_rel (R := fun a b => (b.chain chain).lastSteId = (a.chain chain).lastSteId)
        (fun _ => rfl) (fun h1 h2 => h2.trans h1)
        (fun _ _ hf => by obtain ⟨_, _, _, _, e3, _⟩ := cancelBatch_eff hf; exact e3) hv
    · have := hm.keeps "minter"
      rw [chain_setChain_ne _ _ hne, ho "minter" hne] at this
      exact this

end Mhub2
