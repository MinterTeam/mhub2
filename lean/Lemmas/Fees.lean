import Lemmas.Base
import Lemmas.Arith
namespace Mhub2

theorem ediv_add_le {a b G : Int} (hG : 0 < G) : a / G + b / G ≤ (a + b) / G := by
  apply Int.le_ediv_of_mul_le hG
  have h1 := Int.ediv_mul_le a (Int.ne_of_gt hG)
  have h2 := Int.ediv_mul_le b (Int.ne_of_gt hG)
  rw [Int.add_mul]
  omega

theorem sum_floor_le (L G : Int) (hG : 0 < G) (cs : List Int) :
    sumInts (cs.map fun c => (L * c) / G) ≤ (L * sumInts cs) / G := by
  induction cs with
  | nil => simp
  | cons c cs ih =>
    simp only [List.map_cons, sumInts_cons]
    calc L * c / G + sumInts (cs.map fun c => (L * c) / G)
        ≤ L * c / G + (L * sumInts cs) / G := by omega
      _ ≤ (L * c + L * sumInts cs) / G := ediv_add_le hG
      _ = (L * (c + sumInts cs)) / G := by rw [Int.mul_add]

theorem sumNats_floor_mul_le (c T : Nat) (ps : List Nat) :
    sumNats (ps.map fun p => p * c / T) * T ≤ sumNats ps * c := by
  induction ps with
  | nil => simp
  | cons p ps ih =>
    rw [List.map_cons, sumNats_cons, sumNats_cons, Nat.add_mul, Nat.add_mul]
    have := Nat.div_mul_le_self (p * c) T
    omega

theorem sumNats_map_congr {α : Type} {f g : α → Nat} {l : List α} (h : ∀ x ∈ l, f x = g x) :
    sumNats (l.map f) = sumNats (l.map g) := by
  rw [List.map_congr_left h]

theorem sumNats_map_eq_zero {α : Type} (l : List α) (f : α → Nat) (h : ∀ x ∈ l, f x = 0) :
    sumNats (l.map f) = 0 := by
  induction l with
  | nil => rfl
  | cons x xs ih =>
    rw [List.map_cons, sumNats_cons, h x (by simp), ih (fun y hy => h y (List.mem_cons_of_mem _ hy))]

theorem sum_floor_zero (c : Nat) (ps : List Nat) : sumNats (ps.map fun p => p * c / 0) = 0 :=
  sumNats_map_eq_zero _ _ fun _ _ => Nat.div_zero _

theorem sumNats_floor_le (c : Nat) (ps : List Nat) :
    sumNats (ps.map fun p => p * c / sumNats ps) ≤ c := by
  by_cases hT : sumNats ps = 0
  · rw [hT, sum_floor_zero]; exact Nat.zero_le _
  · have h := sumNats_floor_mul_le c (sumNats ps) ps
    rw [Nat.mul_comm (sumNats ps) c] at h
    exact Nat.le_of_mul_le_mul_right h (Nat.pos_of_ne_zero hT)

theorem sumInts_map_natCast (ps : List Nat) :
    sumInts (ps.map fun (p : Nat) => (p : Int)) = ((sumNats ps : Nat) : Int) := by
  induction ps with
  | nil => rfl
  | cons q qs ih =>
    simp only [List.map_cons, sumInts_cons, sumNats_cons, ih]
    omega

end Mhub2
