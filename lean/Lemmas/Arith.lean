import Mhub2.Arith
namespace Mhub2

theorem decOne_eq : decOne = 1000000000000000000 := by decide
theorem pow10_pos (n : Nat) : 0 < pow10 n := by
  unfold pow10; exact Int.pow_pos (by decide)

theorem pow10_add (a b : Nat) : pow10 (a + b) = pow10 a * pow10 b := by
  unfold pow10; exact Int.pow_add 10 a b

theorem pow10_split {a b : Nat} (h : a ≤ b) : pow10 b = pow10 a * pow10 (b - a) := by
  rw [← pow10_add]; congr 1; omega

theorem fromExt_le18 {d : Nat} (hd : d ≤ 18) (a : Int) : fromExt d a = a * pow10 (18 - d) := by
  unfold fromExt convertDecimals hubDecimals
  by_cases h : d = 18
  · subst h; simp [pow10]
  · simp [h]
    rw [pow10_split hd, Int.mul_left_comm, Int.mul_ediv_cancel_left _ (Int.ne_of_gt (pow10_pos d))]

theorem fromExt_gt18 {d : Nat} (hd : 18 < d) (a : Int) : fromExt d a = a / pow10 (d - 18) := by
  unfold fromExt convertDecimals hubDecimals
  have h : d ≠ 18 := by omega
  simp [h]
  rw [pow10_split (Nat.le_of_lt hd), Int.mul_comm (pow10 18), ]
  exact Int.mul_ediv_mul_of_pos_left a (pow10 (d - 18)) (pow10_pos 18)

theorem toExt_ge18 {d : Nat} (hd : 18 ≤ d) (a : Int) : toExt d a = a * pow10 (d - 18) := by
  unfold toExt convertDecimals hubDecimals
  by_cases h : 18 = d
  · subst h; simp [pow10]
  · simp [h]
    rw [pow10_split hd, Int.mul_left_comm, Int.mul_ediv_cancel_left _ (Int.ne_of_gt (pow10_pos 18))]

theorem toExt_lt18 {d : Nat} (hd : d < 18) (a : Int) : toExt d a = a / pow10 (18 - d) := by
  unfold toExt convertDecimals hubDecimals
  have h : 18 ≠ d := by omega
  simp [h]
  rw [pow10_split (Nat.le_of_lt hd), Int.mul_comm (pow10 d)]
  exact Int.mul_ediv_mul_of_pos_left a (pow10 (18 - d)) (pow10_pos d)

theorem convertDecimals_nonneg (f t : Nat) {a : Int} (ha : 0 ≤ a) : 0 ≤ convertDecimals f t a := by
  unfold convertDecimals
  split
  · exact ha
  · exact Int.ediv_nonneg (Int.mul_nonneg ha (Int.le_of_lt (pow10_pos t))) (Int.le_of_lt (pow10_pos f))

theorem floor_bounds (a : Int) {m : Int} (hm : 0 < m) : (a / m) * m ≤ a ∧ a < (a / m + 1) * m := by
  constructor
  · exact Int.ediv_mul_le a (Int.ne_of_gt hm)
  · have := Int.lt_ediv_add_one_mul_self a hm
    simpa using this

theorem chopRound_exact (x : Int) : chopRound (x * 1000000000000000000) = x := by
  unfold chopRound
  have hn : (x * 1000000000000000000).natAbs = x.natAbs * 1000000000000000000 := by
    rw [Int.natAbs_mul]; rfl
  simp only [hn]
  have h1 : x.natAbs * 1000000000000000000 % 10 ^ 18 = 0 := by
    have : (10:Nat)^18 = 1000000000000000000 := by decide
    rw [this]; exact Nat.mul_mod_left _ _
  have h2 : x.natAbs * 1000000000000000000 / 10 ^ 18 = x.natAbs := by
    have : (10:Nat)^18 = 1000000000000000000 := by decide
    rw [this]; exact Nat.mul_div_cancel _ (by decide)
  simp only [h1, h2, if_true]
  by_cases hx : x < 0
  · have : x * 1000000000000000000 < 0 := by omega
    simp [this]; omega
  · have : ¬ (x * 1000000000000000000 < 0) := by omega
    simp [this]; omega

/-- `rate.Mul(x.ToDec()).TruncateInt()` is the truncated quotient `rate·x / 10^18`: the
    intermediate `Dec.Mul` is exact, so its rounding mode is irrelevant. -/
theorem commissionOf_eq (rate x : Int) : commissionOf rate x = Int.tdiv (rate * x) decOne := by
  unfold commissionOf decTruncateInt chopTrunc decMul toDec
  rw [decOne_eq, ← Int.mul_assoc, chopRound_exact]

theorem commissionOf_nonneg {rate x : Int} (hr : 0 ≤ rate) (hx : 0 ≤ x) : 0 ≤ commissionOf rate x := by
  rw [commissionOf_eq]
  exact Int.tdiv_nonneg (Int.mul_nonneg hr hx) (by rw [decOne_eq]; decide)

theorem commissionOf_le {rate x : Int} (hr : 0 ≤ rate) (hx : 0 ≤ x) :
    commissionOf rate x * decOne ≤ rate * x := by
  rw [commissionOf_eq]
  have h := Int.mul_nonneg hr hx
  rw [Int.tdiv_eq_ediv_of_nonneg h]
  exact Int.ediv_mul_le _ (by rw [decOne_eq]; decide)

theorem commissionOf_gt {rate x : Int} (hr : 0 ≤ rate) (hx : 0 ≤ x) :
    rate * x < (commissionOf rate x + 1) * decOne := by
  rw [commissionOf_eq]
  have h := Int.mul_nonneg hr hx
  rw [Int.tdiv_eq_ediv_of_nonneg h]
  have := Int.lt_ediv_add_one_mul_self (rate * x) (show (0:Int) < decOne by rw [decOne_eq]; decide)
  simpa using this

theorem discountPct_cases (v : Int) :
    discountPct v = 0 ∨ discountPct v = 10 ∨ discountPct v = 20 ∨ discountPct v = 30 ∨
    discountPct v = 40 ∨ discountPct v = 50 ∨ discountPct v = 60 := by
  unfold discountPct
  by_cases h32 : v ≥ 32 * decOne
  · rw [if_pos h32]; decide
  rw [if_neg h32]
  by_cases h16 : v ≥ 16 * decOne
  · rw [if_pos h16]; decide
  rw [if_neg h16]
  by_cases h8 : v ≥ 8 * decOne
  · rw [if_pos h8]; decide
  rw [if_neg h8]
  by_cases h4 : v ≥ 4 * decOne
  · rw [if_pos h4]; decide
  rw [if_neg h4]
  by_cases h2 : v ≥ 2 * decOne
  · rw [if_pos h2]; decide
  rw [if_neg h2]
  by_cases h1 : v ≥ 1 * decOne
  · rw [if_pos h1]; decide
  · rw [if_neg h1]; decide

theorem tier_bounds {rate p : Int} (hr : 0 ≤ rate) (hp0 : 0 ≤ p) (hp : p ≤ 100) :
    0 ≤ rate - Int.tdiv (rate * p) 100 ∧ rate - Int.tdiv (rate * p) 100 ≤ rate := by
  have hnn : 0 ≤ rate * p := Int.mul_nonneg hr hp0
  have h1 : 0 ≤ Int.tdiv (rate * p) 100 := Int.tdiv_nonneg hnn (by decide)
  have h2 : Int.tdiv (rate * p) 100 ≤ rate := by
    rw [Int.tdiv_eq_ediv_of_nonneg hnn]
    have : rate * p ≤ rate * 100 := Int.mul_le_mul_of_nonneg_left hp hr
    calc rate * p / 100 ≤ rate * 100 / 100 := Int.ediv_le_ediv (by decide) this
      _ = rate := Int.mul_ediv_cancel rate (by decide)
  omega

theorem commissionRate_bounds {rate : Int} (hr : 0 ≤ rate) (hv : Int) :
    0 ≤ commissionRate rate hv ∧ commissionRate rate hv ≤ rate := by
  unfold commissionRate decQuoInt64 decMulInt64
  split
  · omega
  · simp only
    split
    · omega
    · rcases discountPct_cases hv with h | h | h | h | h | h | h <;> rw [h] <;>
        exact tier_bounds hr (by decide) (by decide)

end Mhub2
