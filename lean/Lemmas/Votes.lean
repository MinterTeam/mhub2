/-
  The vote bookkeeping (C02, C03): the vote machine `vstep`/`vrun` over a `ChainSt` (claims and
  tallies only), its invariants `VInv`/`VInvB`, the applied history, and `Hub.tally` against
  `tallyPure`, the tally of that machine.
-/
import Lemmas.Ops
namespace Mhub2

/-- The body is that of `KeySorted`, so the lemmas of Lemmas/Base.lean about `insertByKey` apply as
    they stand. -/
def SortedBy {α : Type} (key : α → Bytes) (l : List α) : Prop :=
  l.Pairwise (fun a b => bytesLt (key a) (key b) = true)

theorem sortedBy_nil {α : Type} (key : α → Bytes) : SortedBy key [] := List.Pairwise.nil

theorem recKey_nonce {r : VoteRec} {n : Nat} {hash : Bytes} (hr : r.nonce < 2 ^ 64) (hn : n < 2 ^ 64)
    (h : recKey r = be8 n ++ hash) : r.nonce = n :=
  be8_inj hr hn (List.append_inj h (by rw [be8_length, be8_length])).1

/-- A validator listed twice is counted twice. -/
def votePower (power : String → Nat) (votes : List String) : Int :=
  sumInts (votes.map fun v => (power v : Int))

theorem votePower_nonneg (power : String → Nat) (votes : List String) : 0 ≤ votePower power votes := by
  apply sumInts_nonneg
  intro x hx
  obtain ⟨v, _, rfl⟩ := List.mem_map.mp hx
  exact Int.natCast_nonneg _

theorem reachesThreshold_le {power : String → Nat} {required : Int} :
    ∀ (vs : List String) (acc : Int), reachesThreshold power required vs acc = true →
      required ≤ acc + votePower power vs := by
  intro vs
  induction vs with
  | nil => intro acc h; simp [reachesThreshold] at h
  | cons v vs ih =>
    intro acc h
    have hnn := votePower_nonneg power vs
    unfold votePower at hnn ih ⊢
    simp only [List.map_cons, sumInts_cons]
    unfold reachesThreshold at h
    simp only at h
    split at h
    · omega
    · have := ih _ h; omega

/-- The threshold rounds up: with `add ≥ den - 1` the truncated quotient is at least `num/den` of the
    total (the shipped `66·total + 99` over `100`). -/
theorem voteThreshold_le {num add den total s : Int} (hn : 0 ≤ num) (ht : 0 ≤ total)
    (hd : 0 < den) (ha : den - 1 ≤ add) (h : voteThreshold num add den total ≤ s) :
    num * total ≤ den * s := by
  unfold voteThreshold at h
  have hnt := Int.mul_nonneg hn ht
  rw [Int.tdiv_eq_ediv_of_nonneg (by omega)] at h
  have hmod := Int.emod_lt_of_pos (num * total + add) hd
  have hdiv := Int.mul_ediv_add_emod (num * total + add) den
  have := Int.mul_le_mul_of_nonneg_left h (Int.le_of_lt hd)
  omega

theorem accepts_iff {c : ChainSt} {power : String → Nat} {required : Int} {r : VoteRec} :
    c.accepts power required r = true ↔
      r.nonce = c.lastObserved + 1 ∧ r.accepted = false ∧ reachesThreshold power required r.votes 0 = true := by
  simp [ChainSt.accepts, and_assoc]

theorem validBasic_nonce_ne_zero {ev : Event} (h : ev.validBasic = true) : ev.nonce ≠ 0 := by
  cases ev <;> simp [Event.validBasic] at h <;> simp [Event.nonce] <;> omega

theorem votedRec_key (c : ChainSt) (ev : Event) (hash : Bytes) (v : String) :
    recKey (votedRec c ev hash v) = be8 ev.nonce ++ hash :=
  voteBase_ind (P := fun b => recKey b = be8 ev.nonce ++ hash) (fun _ _ h => h) rfl

theorem lastNonceOf_some {c : ChainSt} {v : String} {n : Nat} (h : alGet c.lastNonceBy v = some n) :
    c.lastNonceOf v = n := by
  simp [ChainSt.lastNonceOf, h]

/-- One operation on the vote bookkeeping of a chain: a validator's claim (already resolved to the
    validator and hashed), or the end-block tally with the staking view it sees. -/
inductive VOp where
  | vote (v : String) (ev : Event) (hash : Bytes)
  | tally (power : String → Nat) (required : Int) (height : Nat)

def vstep (c : ChainSt) : VOp → ChainSt
  | .vote v ev hash =>
    if ev.validBasic then
      (match c.recordVote ev hash v with
       | .ok c' => c'
       | .error _ => c)
    else c
  | .tally p req ht => (c.tallyPure p req ht).1

def vrun (ops : List VOp) : ChainSt := ops.foldl vstep {}

theorem vstep_vote_cases (c : ChainSt) (v : String) (ev : Event) (hash : Bytes) :
    vstep c (.vote v ev hash) = c ∨
    (ev.validBasic = true ∧ c.recordVote ev hash v = .ok (vstep c (.vote v ev hash))) := by
  unfold vstep
  dsimp only
  by_cases hv : ev.validBasic = true
  · rw [if_pos hv]
    cases c.recordVote ev hash v with
    | ok c' => exact .inr ⟨hv, rfl⟩
    | error _ => exact .inl rfl
  · rw [if_neg hv]; exact .inl rfl

theorem vstep_tally (c : ChainSt) (p : String → Nat) (req : Int) (ht : Nat) :
    vstep c (.tally p req ht) = (c.tallyPure p req ht).1 := rfl

/-- The machine with a ghost: every record applied by a tally so far, in order. -/
def vstepA (s : ChainSt × List VoteRec) (op : VOp) : ChainSt × List VoteRec :=
  match op with
  | .vote .. => (vstep s.1 op, s.2)
  | .tally p req ht => ((s.1.tallyPure p req ht).1, s.2 ++ (s.1.tallyPure p req ht).2)

def vrunA (ops : List VOp) : ChainSt × List VoteRec := ops.foldl vstepA ({}, [])

/-- Every record applied by the tallies of a run from genesis, in order. -/
def vapplied (ops : List VOp) : List VoteRec := (vrunA ops).2

theorem vstepA_fst (s : ChainSt × List VoteRec) (op : VOp) : (vstepA s op).1 = vstep s.1 op := by
  cases op <;> rfl

theorem foldl_vstepA_fst (ops : List VOp) (s : ChainSt × List VoteRec) :
    (ops.foldl vstepA s).1 = ops.foldl vstep s.1 := by
  induction ops generalizing s with
  | nil => rfl
  | cons op ops ih => simp only [List.foldl_cons, ih, vstepA_fst]

theorem vrunA_fst (ops : List VOp) : (vrunA ops).1 = vrun ops := foldl_vstepA_fst ops _

/-- Event nonces are `uint64` in the implementation. -/
def OpBounded : VOp → Prop
  | .vote _ ev _ => ev.nonce < 2 ^ 64
  | .tally .. => True

def OpsBounded (ops : List VOp) : Prop := ∀ op ∈ ops, OpBounded op

def Reach (c : ChainSt) : Prop := ∃ ops, c = vrun ops

def ReachB (c : ChainSt) : Prop := ∃ ops, OpsBounded ops ∧ c = vrun ops

theorem ReachB.reach {c : ChainSt} (h : ReachB c) : Reach c := by
  obtain ⟨ops, _, e⟩ := h; exact ⟨ops, e⟩

def tallyStep (p : String → Nat) (req : Int) (ht : Nat) (acc : ChainSt × List VoteRec) (r : VoteRec) :
    ChainSt × List VoteRec :=
  if acc.1.accepts p req r then (acc.1.markObserved r ht, acc.2 ++ [r]) else acc

theorem tallyStep_pos {p : String → Nat} {req : Int} {acc : ChainSt × List VoteRec} {r : VoteRec}
    (ht : Nat) (h : acc.1.accepts p req r = true) :
    tallyStep p req ht acc r = (acc.1.markObserved r ht, acc.2 ++ [r]) := if_pos h

theorem tallyStep_neg {p : String → Nat} {req : Int} {acc : ChainSt × List VoteRec} {r : VoteRec}
    (ht : Nat) (h : ¬ acc.1.accepts p req r = true) : tallyStep p req ht acc r = acc := if_neg h

theorem tallyPure_eq (c : ChainSt) (p : String → Nat) (req : Int) (ht : Nat) :
    c.tallyPure p req ht = c.records.foldl (tallyStep p req ht) (c, []) := rfl

/-- `acc` is a state of a tally started in `c`: the records applied so far sit at the nonces after
    `c.lastObserved`, the counter stands at the last of them, and each was stored in `c` and passed
    the power test. -/
def TallyOk (c : ChainSt) (p : String → Nat) (req : Int) (acc : ChainSt × List VoteRec) : Prop :=
  acc.2.map (·.nonce) = List.range' (c.lastObserved + 1) acc.2.length ∧
  acc.1.lastObserved = c.lastObserved + acc.2.length ∧
  ∀ r ∈ acc.2, r ∈ c.records ∧ reachesThreshold p req r.votes 0 = true

theorem tallyPure_consec (c : ChainSt) (p : String → Nat) (req : Int) (ht : Nat) :
    TallyOk c p req (c.tallyPure p req ht) := by
  rw [tallyPure_eq]
  refine foldl_rel (fun a b => TallyOk c p req a → TallyOk c p req b) (fun _ => id)
    (fun f g x => g (f x)) c.records (fun acc r hr ⟨h1, h2, h3⟩ => ?_) (c, [])
    ⟨rfl, rfl, fun _ h => nomatch h⟩
  by_cases ha : acc.1.accepts p req r = true
  · obtain ⟨hn, _, hth⟩ := accepts_iff.mp ha
    rw [tallyStep_pos ht ha]
    refine ⟨?_, ?_, fun x hx => ?_⟩
    · rw [List.map_append, List.length_append, h1, List.length_singleton, List.range'_concat,
        List.map_singleton, hn, h2, Nat.one_mul, Nat.add_right_comm]
    · show r.nonce = _
      rw [hn, h2, List.length_append, List.length_singleton, Nat.add_assoc]
    · rcases List.mem_append.mp hx with hx | hx
      · exact h3 x hx
      · rw [List.mem_singleton.mp hx]
        exact ⟨hr, hth⟩
  · rw [tallyStep_neg ht ha]
    exact ⟨h1, h2, h3⟩

/-- The tally walks the list of records it started with (`l`) while the store changes under it; `l`
    being sorted, the records still to come have other keys than the one just marked and so are
    still in the store. -/
theorem tallyFold_ind (p : String → Nat) (req : Int) (ht : Nat) (P : ChainSt → Prop)
    (hsorted : ∀ c, P c → SortedBy recKey c.records)
    (hstep : ∀ c r, P c → r ∈ c.records → c.accepts p req r = true → P (c.markObserved r ht))
    (l : List VoteRec) (acc : ChainSt × List VoteRec)
    (hP : P acc.1) (hmem : ∀ r ∈ l, r ∈ acc.1.records) (hl : SortedBy recKey l) :
    P (l.foldl (tallyStep p req ht) acc).1 := by
  induction l generalizing acc with
  | nil => exact hP
  | cons r rest ih =>
    simp only [List.foldl_cons]
    unfold SortedBy at hl
    obtain ⟨hr, hrest⟩ := List.pairwise_cons.mp hl
    by_cases ha : acc.1.accepts p req r = true
    · rw [tallyStep_pos ht ha]
      refine ih _ (hstep _ _ hP (hmem r (by simp)) ha) ?_ hrest
      intro x hx
      show x ∈ insertByKey recKey { r with accepted := true } acc.1.records
      refine (mem_insertByKey_sorted (hsorted _ hP)).mpr (Or.inr ⟨hmem x (List.mem_cons_of_mem _ hx), ?_⟩)
      exact (bytesLt_ne (hr x hx)).symm
    · rw [tallyStep_neg ht ha]
      exact ih _ hP (fun x hx => hmem x (List.mem_cons_of_mem _ hx)) hrest

/-- Invariant of every reachable state (no bound on nonces needed). -/
structure VInv (c : ChainSt) : Prop where
  sorted : SortedBy recKey c.records
  acc_le : ∀ r ∈ c.records, r.accepted = true → r.nonce ≤ c.lastObserved
  acc_uniq : ∀ r1 ∈ c.records, ∀ r2 ∈ c.records, r1.accepted = true → r2.accepted = true →
    r1.nonce = r2.nonce → r1 = r2
  stored_pos : ∀ v n, alGet c.lastNonceBy v = some n → 1 ≤ n

/-- Invariant of the states reachable by claims with `uint64` nonces. -/
structure VInvB (c : ChainSt) : Prop where
  base : VInv c
  bounded : ∀ r ∈ c.records, r.nonce < 2 ^ 64
  voted_le : ∀ r ∈ c.records, ∀ v ∈ r.votes, ∃ n, alGet c.lastNonceBy v = some n ∧ r.nonce ≤ n
  nodup : ∀ r ∈ c.records, r.votes.Nodup
  one_vote : ∀ r1 ∈ c.records, ∀ r2 ∈ c.records, r1.nonce = r2.nonce →
    ∀ v, v ∈ r1.votes → v ∈ r2.votes → r1 = r2

theorem VInv.init : VInv {} :=
  ⟨sortedBy_nil _, by simp, by simp, by simp [alGet]⟩

theorem VInvB.init : VInvB {} :=
  ⟨VInv.init, by simp, by simp, by simp, by simp⟩

theorem markObserved_VInv {c : ChainSt} {p : String → Nat} {req : Int} {r : VoteRec} (ht : Nat)
    (hi : VInv c) (ha : c.accepts p req r = true) : VInv (c.markObserved r ht) := by
  obtain ⟨hn, _, _⟩ := accepts_iff.mp ha
  refine ⟨insertByKey_sorted recKey hi.sorted, ?_, ?_, hi.stored_pos⟩
  · show ∀ y ∈ insertByKey recKey { r with accepted := true } c.records, y.accepted = true → y.nonce ≤ r.nonce
    refine forall_insertByKey_sorted hi.sorted (fun _ => Nat.le_refl _) fun y hy _ hacc => ?_
    have := hi.acc_le y hy hacc
    omega
  · refine forall₂_insertByKey_sorted hi.sorted (fun _ _ h ha hb e => (h hb ha e.symm).symm)
      (fun _ _ _ => rfl) (fun y hy _ _ hacc hnn => ?_) hi.acc_uniq
    -- the marked record sits above every accepted one
    have := hi.acc_le y hy hacc
    have hnn' : r.nonce = y.nonce := hnn
    omega

theorem markObserved_VInvB {c : ChainSt} {p : String → Nat} {req : Int} {r : VoteRec} (ht : Nat)
    (hi : VInvB c) (hr : r ∈ c.records) (ha : c.accepts p req r = true) :
    VInvB (c.markObserved r ht) :=
  ⟨markObserved_VInv ht hi.base ha,
   forall_insertByKey_sorted hi.base.sorted (hi.bounded r hr) fun y hy _ => hi.bounded y hy,
   forall_insertByKey_sorted hi.base.sorted (hi.voted_le r hr) fun y hy _ => hi.voted_le y hy,
   forall_insertByKey_sorted hi.base.sorted (hi.nodup r hr) fun y hy _ => hi.nodup y hy,
   forall₂_insertByKey_sorted hi.base.sorted (fun _ _ h e v h1 h2 => (h e.symm v h2 h1).symm)
     (fun _ _ _ _ => rfl)
     (fun y hy hk hnn v hv1 hv2 => absurd (congrArg recKey (hi.one_vote r hr y hy hnn v hv1 hv2)).symm hk)
     hi.one_vote⟩

theorem tallyPure_VInv {c : ChainSt} (p : String → Nat) (req : Int) (ht : Nat) (hi : VInv c) :
    VInv (c.tallyPure p req ht).1 := by
  rw [tallyPure_eq]
  exact tallyFold_ind p req ht VInv (fun _ h => h.sorted)
    (fun _ _ h _ ha => markObserved_VInv ht h ha) _ _ hi (fun _ h => h) hi.sorted

theorem tallyPure_VInvB {c : ChainSt} (p : String → Nat) (req : Int) (ht : Nat) (hi : VInvB c) :
    VInvB (c.tallyPure p req ht).1 := by
  rw [tallyPure_eq]
  exact tallyFold_ind p req ht VInvB (fun _ h => h.base.sorted)
    (fun _ _ h hr ha => markObserved_VInvB ht h hr ha) _ _ hi (fun _ h => h) hi.base.sorted

theorem recordVote_VInv {c c' : ChainSt} {ev : Event} {hash : Bytes} {v : String}
    (hi : VInv c) (hnz : ev.nonce ≠ 0) (h : c.recordVote ev hash v = .ok c') : VInv c' := by
  obtain ⟨_, hc'⟩ := recordVote_ok h
  subst hc'
  -- an accepted written record extends an accepted stored record under the same key
  have hbase : (votedRec c ev hash v).accepted = true →
      voteBase c ev hash ∈ c.records ∧ recKey (voteBase c ev hash) = be8 ev.nonce ++ hash :=
    voteBase_ind (P := fun b => b.accepted = true → b ∈ c.records ∧ recKey b = be8 ev.nonce ++ hash)
      (fun _ hr hk _ => ⟨hr, hk⟩) (fun hacc => absurd hacc Bool.false_ne_true)
  refine ⟨insertByKey_sorted recKey hi.sorted, ?_, ?_, ?_⟩
  · exact forall_insertByKey_sorted hi.sorted (fun hacc => hi.acc_le (voteBase c ev hash) (hbase hacc).1 hacc)
      fun y hy _ => hi.acc_le y hy
  · refine forall₂_insertByKey_sorted hi.sorted (fun _ _ h ha hb e => (h hb ha e.symm).symm)
      (fun _ _ _ => rfl) (fun y hy hk ha1 ha2 hnn => ?_) hi.acc_uniq
    obtain ⟨hb, hkb⟩ := hbase ha1
    rw [← hi.acc_uniq _ hb y hy ha1 ha2 hnn, votedRec_key] at hk
    exact absurd hkb hk
  · intro w n hw
    rcases alGet_alSet_cases hw with ⟨_, e⟩ | hw
    · omega
    · exact hi.stored_pos w n hw

theorem recordVote_VInvB {c c' : ChainSt} {ev : Event} {hash : Bytes} {v : String}
    (hi : VInvB c) (hnz : ev.nonce ≠ 0) (hbd : ev.nonce < 2 ^ 64)
    (h : c.recordVote ev hash v = .ok c') : VInvB c' := by
  have hbase' := recordVote_VInv hi.base hnz h
  obtain ⟨hcont, hc'⟩ := recordVote_ok h
  subst hc'
  have hvn : (votedRec c ev hash v).nonce = ev.nonce :=
    voteBase_ind (P := fun b => b.nonce = ev.nonce)
      (fun r hr hk => recKey_nonce (hi.bounded r hr) hbd hk) rfl
  -- `v` has voted only below the claim's nonce (contiguity, and stored nonces are positive)
  have hbelow : ∀ y ∈ c.records, v ∈ y.votes → y.nonce < ev.nonce := by
    intro y hy hv
    obtain ⟨n, hget, hle⟩ := hi.voted_le y hy v hv
    have hpos := hi.base.stored_pos v n hget
    rw [lastNonceOf_some hget] at hcont
    omega
  have hbv : ∀ w, w ∈ (voteBase c ev hash).votes →
      voteBase c ev hash ∈ c.records ∧ recKey (voteBase c ev hash) = be8 ev.nonce ++ hash :=
    voteBase_ind (P := fun b => ∀ w, w ∈ b.votes → b ∈ c.records ∧ recKey b = be8 ev.nonce ++ hash)
      (fun _ hr hk _ _ => ⟨hr, hk⟩) (fun _ hw => nomatch hw)
  have hvotes : (votedRec c ev hash v).votes = (voteBase c ev hash).votes ++ [v] := rfl
  have hle' : ∀ y ∈ c.records, ∀ w ∈ y.votes,
      ∃ n, alGet (alSet c.lastNonceBy v ev.nonce) w = some n ∧ y.nonce ≤ n := by
    intro y hy w hw
    by_cases hwv : v = w
    · subst hwv
      exact ⟨ev.nonce, alGet_alSet_same _ _ _, Nat.le_of_lt (hbelow y hy hw)⟩
    · obtain ⟨n, hget, hle⟩ := hi.voted_le y hy w hw
      exact ⟨n, by rw [alGet_alSet_other _ _ _ _ hwv]; exact hget, hle⟩
  refine ⟨hbase', ?_, ?_, ?_, ?_⟩
  · exact forall_insertByKey_sorted hi.base.sorted (by rw [hvn]; exact hbd) fun y hy _ => hi.bounded y hy
  · show ∀ y ∈ insertByKey recKey (votedRec c ev hash v) c.records, ∀ w ∈ y.votes,
      ∃ n, alGet (alSet c.lastNonceBy v ev.nonce) w = some n ∧ y.nonce ≤ n
    refine forall_insertByKey_sorted hi.base.sorted (fun w hw => ?_) fun y hy _ => hle' y hy
    rw [hvotes] at hw
    rcases List.mem_append.mp hw with hw | hw
    · exact hle' _ (hbv w hw).1 w hw
    · rw [List.mem_singleton.mp hw, hvn]
      exact ⟨ev.nonce, alGet_alSet_same _ _ _, Nat.le_refl _⟩
  · refine forall_insertByKey_sorted hi.base.sorted ?_ fun y hy _ => hi.nodup y hy
    rw [hvotes]
    refine List.nodup_append.mpr ⟨?_, by simp, fun a ha b hb hab => ?_⟩
    · exact voteBase_ind (P := fun b => b.votes.Nodup) (fun r hr _ => hi.nodup r hr) List.nodup_nil
    · rw [List.mem_singleton.mp hb] at hab
      rw [hab] at ha
      exact absurd hvn (Nat.ne_of_lt (hbelow (voteBase c ev hash) (hbv v ha).1 ha))
  · refine forall₂_insertByKey_sorted hi.base.sorted (fun _ _ h e w h1 h2 => (h e.symm w h2 h1).symm)
      (fun _ _ _ _ => rfl) (fun y hy hk hnn w hwa hwb => ?_) hi.one_vote
    rw [votedRec_key] at hk
    have hyn : y.nonce = ev.nonce := by rw [← hnn]; exact hvn
    rw [hvotes] at hwa
    rcases List.mem_append.mp hwa with hwa | hwa
    · obtain ⟨hb, hkb⟩ := hbv w hwa
      rw [← hi.one_vote _ hb y hy (by rw [hyn]; exact hvn) w hwa hwb] at hk
      exact absurd hkb hk
    · rw [List.mem_singleton.mp hwa] at hwb
      exact absurd hyn (Nat.ne_of_lt (hbelow y hy hwb))

theorem vstep_VInv {c : ChainSt} (op : VOp) (hi : VInv c) : VInv (vstep c op) := by
  cases op with
  | vote v ev hash =>
    rcases vstep_vote_cases c v ev hash with e | ⟨hvb, hok⟩
    · rw [e]; exact hi
    · exact recordVote_VInv hi (validBasic_nonce_ne_zero hvb) hok
  | tally p req ht => exact tallyPure_VInv p req ht hi

theorem vstep_VInvB {c : ChainSt} {op : VOp} (hb : OpBounded op) (hi : VInvB c) : VInvB (vstep c op) := by
  cases op with
  | vote v ev hash =>
    rcases vstep_vote_cases c v ev hash with e | ⟨hvb, hok⟩
    · rw [e]; exact hi
    · exact recordVote_VInvB hi (validBasic_nonce_ne_zero hvb) hb hok
  | tally p req ht => exact tallyPure_VInvB p req ht hi

theorem Reach.inv {c : ChainSt} (h : Reach c) : VInv c := by
  obtain ⟨ops, rfl⟩ := h
  exact foldl_rel (fun a b => VInv a → VInv b) (fun _ => id) (fun f g x => g (f x)) ops
    (fun _ op _ => vstep_VInv op) {} VInv.init

theorem ReachB.inv {c : ChainSt} (h : ReachB c) : VInvB c := by
  obtain ⟨ops, hb, rfl⟩ := h
  exact foldl_rel (fun a b => VInvB a → VInvB b) (fun _ => id) (fun f g x => g (f x)) ops
    (fun _ op ho => vstep_VInvB (hb op ho)) {} VInvB.init

theorem vstep_vote_lastObserved (c : ChainSt) (v : String) (ev : Event) (hash : Bytes) :
    (vstep c (.vote v ev hash)).lastObserved = c.lastObserved := by
  rcases vstep_vote_cases c v ev hash with e | ⟨_, hok⟩
  · rw [e]
  · rw [(recordVote_ok hok).2]

theorem vapplied_consec (ops : List VOp) :
    (vapplied ops).map (·.nonce) = List.range' 1 (vrun ops).lastObserved := by
  rw [← vrunA_fst]
  refine foldl_rel (fun a b : ChainSt × List VoteRec =>
      a.2.map (·.nonce) = List.range' 1 a.1.lastObserved → b.2.map (·.nonce) = List.range' 1 b.1.lastObserved)
    (fun _ => id) (fun f g x => g (f x)) ops (fun s op _ hs => ?_) ({}, []) rfl
  cases op with
  | vote v ev hash =>
    show s.2.map (·.nonce) = List.range' 1 (vstep s.1 (.vote v ev hash)).lastObserved
    rw [vstep_vote_lastObserved]
    exact hs
  | tally p req ht =>
    show (s.2 ++ (s.1.tallyPure p req ht).2).map (·.nonce) =
      List.range' 1 (s.1.tallyPure p req ht).1.lastObserved
    obtain ⟨h2, h3, _⟩ := tallyPure_consec s.1 p req ht
    rw [h3, List.map_append, hs, h2, Nat.add_comm s.1.lastObserved 1, List.range'_append_1]

theorem tallyPure_applied {c : ChainSt} {p : String → Nat} {req : Int} {ht : Nat} {r : VoteRec}
    (h : r ∈ (c.tallyPure p req ht).2) :
    r ∈ c.records ∧ reachesThreshold p req r.votes 0 = true :=
  (tallyPure_consec c p req ht).2.2 r h


/-! ### Frame: what the event handler cannot touch -/

structure VFrame (h h' : Hub) : Prop where
  staking : h'.staking = h.staking
  params : h'.params = h.params
  height : h'.height = h.height
  records : ∀ ch, (h'.chain ch).records = (h.chain ch).records
  last : ∀ ch, (h'.chain ch).lastObserved = (h.chain ch).lastObserved

theorem VFrame.refl (h : Hub) : VFrame h h := ⟨rfl, rfl, rfl, fun _ => rfl, fun _ => rfl⟩

theorem VFrame.of_moves {h h' : Hub} (hm : Moves h h') : VFrame h h' := by
  obtain ⟨e, ec⟩ := hm.frame
  exact ⟨by rw [e], by rw [e], by rw [e], fun ch => by rw [ec ch], fun ch => by rw [ec ch]⟩

def Fr (h0 : Hub) (m : M Hub) : Prop := ∀ h', m = .ok h' → VFrame h0 h'

theorem Fr_panic_bind {α : Type} {h0 : Hub} (msg : String) (f : α → M Hub) :
    Fr h0 ((panicM msg : M α) >>= f) := by
  intro h' e; cases e

theorem lastPower_congr {h1 h2 : Hub} (hs : h1.staking = h2.staking) : h1.lastPower = h2.lastPower := by
  funext v; simp [Hub.lastPower, hs]

theorem requiredPower_congr {h1 h2 : Hub} (hs : h1.staking = h2.staking) (hp : h1.params = h2.params) :
    h1.requiredPower = h2.requiredPower := by
  simp [Hub.requiredPower, Hub.totalPower, hs, hp]

theorem accepts_congr {c1 c2 : ChainSt} (hl : c1.lastObserved = c2.lastObserved) (p : String → Nat)
    (req : Int) (r : VoteRec) : c1.accepts p req r = c2.accepts p req r := by
  simp [ChainSt.accepts, hl]

def TallySim (h0 : Hub) (chain : String) (hk : Hub) (c : ChainSt) : Prop :=
  hk.staking = h0.staking ∧ hk.params = h0.params ∧ hk.height = h0.height ∧
  (hk.chain chain).records = c.records ∧ (hk.chain chain).lastObserved = c.lastObserved

/-- The handler's own writes, kept or rolled back, never reach what the tally reads. -/
theorem tryRecord_sim {h0 hk h' : Hub} {mf : Bool} {chain : String} {r : VoteRec}
    {acc : ChainSt × List VoteRec} (hs : TallySim h0 chain hk acc.1)
    (hok : hk.tryRecord mf chain r = .ok h') :
    TallySim h0 chain h' (tallyStep h0.lastPower h0.requiredPower h0.height acc r).1 := by
  obtain ⟨hst, hp, hh, hr, hl⟩ := hs
  have hacc : (hk.chain chain).accepts hk.lastPower hk.requiredPower r =
      acc.1.accepts h0.lastPower h0.requiredPower r := by
    rw [lastPower_congr hst, requiredPower_congr hst hp, accepts_congr hl]
  have hmark : ∀ x, VFrame (hk.setChain chain ((hk.chain chain).markObserved r hk.height)) x →
      TallySim h0 chain x (acc.1.markObserved r h0.height) := by
    intro x f
    refine ⟨f.staking.trans hst, f.params.trans hp, f.height.trans hh, ?_, ?_⟩
    · rw [f.records, chain_setChain]
      show insertByKey recKey _ (hk.chain chain).records = insertByKey recKey _ acc.1.records
      rw [hr]
    · rw [f.last, chain_setChain]
      rfl
  rcases tryRecord_cases hk mf chain r with ⟨_, _, e⟩ | ⟨ha, e⟩ | ⟨ha, ⟨a, hh', e⟩ | ⟨_, e⟩⟩
  · rw [e] at hok; cases hok
  · rw [e] at hok; injection hok with hok; subst hok
    rw [tallyStep_neg h0.height (by rw [← hacc, ha]; exact Bool.false_ne_true)]
    exact ⟨hst, hp, hh, hr, hl⟩
  · rw [e] at hok; injection hok with hok; subst hok
    rw [tallyStep_pos h0.height (hacc ▸ ha)]
    exact hmark _ (.of_moves (handle_moves hh'))
  · rw [e] at hok; injection hok with hok; subst hok
    rw [tallyStep_pos h0.height (hacc ▸ ha)]
    exact hmark _ (.refl _)

theorem tally_fold_sim {h0 : Hub} {mf : Bool} {chain : String} (l : List VoteRec) {hk h' : Hub}
    {acc : ChainSt × List VoteRec} (hs : TallySim h0 chain hk acc.1)
    (hok : l.foldlM (fun (h : Hub) r => h.tryRecord mf chain r) hk = .ok h') :
    TallySim h0 chain h' (l.foldl (tallyStep h0.lastPower h0.requiredPower h0.height) acc).1 := by
  induction l generalizing hk acc with
  | nil =>
    rw [List.foldlM_nil] at hok
    injection hok with hok
    subst hok
    exact hs
  | cons r rest ih =>
    obtain ⟨h1, h1ok, hok⟩ := foldlM_cons_ok hok
    exact ih (tryRecord_sim hs h1ok) hok

/-- `Hub.tally` does to `records` and `lastObserved` of the chain exactly what `tallyPure` does,
    with the power table, required power and height of the hub at the start of the tally. -/
theorem hub_tally_refines_pure {h h' : Hub} {mf : Bool} {chain : String}
    (hok : h.tally mf chain = .ok h') :
    (h'.chain chain).lastObserved =
      ((h.chain chain).tallyPure h.lastPower h.requiredPower h.height).1.lastObserved ∧
    (h'.chain chain).records =
      ((h.chain chain).tallyPure h.lastPower h.requiredPower h.height).1.records := by
  obtain ⟨_, _, _, hr, hl⟩ :=
    tally_fold_sim (h0 := h) (acc := (h.chain chain, [])) _ ⟨rfl, rfl, rfl, rfl, rfl⟩ hok
  exact ⟨hl, hr⟩

/-- The `Moves` are all of the handler's, or none when its writes are rolled back. -/
theorem tryRecord_of_not_stale (h : Hub) (mf : Bool) (chain : String) {r : VoteRec}
    (hnp : ¬ (r.nonce = (h.chain chain).lastObserved + 1 ∧ r.accepted = true)) :
    ∃ h', h.tryRecord mf chain r = .ok h' ∧
      (h' = h ∨ ((h.chain chain).accepts h.lastPower h.requiredPower r = true ∧
        Moves (h.setChain chain ((h.chain chain).markObserved r h.height)) h')) := by
  rcases tryRecord_cases h mf chain r with ⟨h1, h2, _⟩ | ⟨_, e⟩ | ⟨ha, ⟨a, hh, e⟩ | ⟨_, e⟩⟩
  · exact absurd ⟨h1, h2⟩ hnp
  · exact ⟨h, e, .inl rfl⟩
  · exact ⟨a, e, .inr ⟨ha, handle_moves hh⟩⟩
  · exact ⟨_, e, .inr ⟨ha, .refl _⟩⟩

theorem tryRecord_total (h : Hub) (mf : Bool) (chain : String) {r : VoteRec}
    (hnp : ¬ (r.nonce = (h.chain chain).lastObserved + 1 ∧ r.accepted = true)) :
    ∃ h', h.tryRecord mf chain r = .ok h' ∧
      (h.chain chain).lastObserved ≤ (h'.chain chain).lastObserved := by
  obtain ⟨h', e, rfl | ⟨ha, hm⟩⟩ := tryRecord_of_not_stale h mf chain hnp
  · exact ⟨_, e, Nat.le_refl _⟩
  · refine ⟨_, e, ?_⟩
    rw [(VFrame.of_moves hm).last, chain_setChain]
    show _ ≤ r.nonce
    rw [(accepts_iff.mp ha).1]
    exact Nat.le_succ _

/-- The only error of `Hub.tally` is the "already observed" panic. -/
theorem tally_fold_total (mf : Bool) (chain : String) (l : List VoteRec) (hk : Hub)
    (hacc : ∀ r ∈ l, r.accepted = true → r.nonce ≤ (hk.chain chain).lastObserved) :
    ∃ h', l.foldlM (fun (h : Hub) r => h.tryRecord mf chain r) hk = .ok h' := by
  induction l generalizing hk with
  | nil => exact ⟨hk, rfl⟩
  | cons r rest ih =>
    rw [List.foldlM_cons]
    have hnp : ¬ (r.nonce = (hk.chain chain).lastObserved + 1 ∧ r.accepted = true) := by
      rintro ⟨hn, ha⟩
      have := hacc r (by simp) ha
      omega
    obtain ⟨h1, h1ok, hmono⟩ := tryRecord_total hk mf chain hnp
    obtain ⟨h', hok'⟩ := ih h1 (fun x hx ha => Nat.le_trans (hacc x (List.mem_cons_of_mem _ hx) ha) hmono)
    exact ⟨h', by rw [h1ok]; exact hok'⟩

end Mhub2
