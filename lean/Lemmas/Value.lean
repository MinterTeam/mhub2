/-
  Helper lemmas for the value conservation law (C01): decimal conversions never create value,
  sums over the in-flight transfers of a token, the invariant bundle `Hub.VInv`, the relation
  `VRel` ("one step that changes the value of a denom by at most δ and keeps the invariant")
  and its instances for every keeper function and every operation of a history; the closed form
  `value_le_funds` for histories without deposits.
-/
import Mhub2.Value
import Lemmas.Ledger
import Lemmas.Fees
namespace Mhub2

/-! ### Conversions in common units -/

theorem unitOf_pos (d : Nat) : 0 < unitOf d := pow10_pos _

theorem mul_unit_nonneg {x : Int} (hx : 0 ≤ x) (d : Nat) : 0 ≤ x * unitOf d :=
  Int.mul_nonneg hx (Int.le_of_lt (unitOf_pos d))

theorem unitOf_hub : unitOf hubDecimals = unitOf 18 := rfl

theorem unitOf_le18 {d : Nat} (hd : d ≤ 18) : unitOf d = pow10 (18 - d) * unitOf 18 := by
  unfold unitOf commonDec
  have h : 18 - d ≤ 36 - d := by omega
  rw [pow10_split h]
  congr 2
  omega

theorem unitOf_ge18 {d : Nat} (hd : 18 ≤ d) (hd2 : d ≤ 36) : unitOf 18 = pow10 (d - 18) * unitOf d := by
  unfold unitOf commonDec
  have h : d - 18 ≤ 36 - 18 := by omega
  rw [pow10_split h]
  congr 2
  omega

theorem floor_mul_le (a : Int) {m u : Int} (hm : 0 < m) (hu : 0 < u) : a / m * (m * u) ≤ a * u := by
  rw [← Int.mul_assoc]
  exact Int.mul_le_mul_of_nonneg_right (Int.ediv_mul_le a (Int.ne_of_gt hm)) (Int.le_of_lt hu)

/-- Hub → external conversion never creates value. -/
theorem toExt_value_le {d : Nat} (hd : d ≤ 36) (a : Int) : toExt d a * unitOf d ≤ a * unitOf 18 := by
  by_cases h : d < 18
  · rw [toExt_lt18 h, unitOf_le18 (Nat.le_of_lt h)]
    exact floor_mul_le a (pow10_pos _) (unitOf_pos _)
  · have h' : 18 ≤ d := by omega
    rw [toExt_ge18 h', unitOf_ge18 h' hd, Int.mul_assoc]
    exact Int.le_refl _

theorem toExt_value_eq_of_ge {d : Nat} (h18 : 18 ≤ d) (hd : d ≤ 36) (a : Int) :
    toExt d a * unitOf d = a * unitOf 18 := by
  rw [toExt_ge18 h18, unitOf_ge18 h18 hd, Int.mul_assoc]

theorem toExt_value_eq_of_dvd {d : Nat} (h18 : d < 18) (a : Int) (hdvd : pow10 (18 - d) ∣ a) :
    toExt d a * unitOf d = a * unitOf 18 := by
  rw [toExt_lt18 h18, unitOf_le18 (Nat.le_of_lt h18), ← Int.mul_assoc, Int.ediv_mul_cancel hdvd]

/-- External → hub conversion never creates value. -/
theorem fromExt_value_le {d : Nat} (hd : d ≤ 36) (a : Int) : fromExt d a * unitOf 18 ≤ a * unitOf d := by
  by_cases h : d ≤ 18
  · rw [fromExt_le18 h, unitOf_le18 h, Int.mul_assoc]
    exact Int.le_refl _
  · have h' : 18 < d := by omega
    rw [fromExt_gt18 h', unitOf_ge18 (Nat.le_of_lt h') hd]
    exact floor_mul_le a (pow10_pos _) (unitOf_pos _)

theorem fromExt_value_eq_of_le {d : Nat} (h18 : d ≤ 18) (a : Int) :
    fromExt d a * unitOf 18 = a * unitOf d := by
  rw [fromExt_le18 h18, unitOf_le18 h18, Int.mul_assoc]

theorem fromExt_value_eq_of_dvd {d : Nat} (h18 : 18 < d) (hd : d ≤ 36) (a : Int) (hdvd : pow10 (d - 18) ∣ a) :
    fromExt d a * unitOf 18 = a * unitOf d := by
  rw [fromExt_gt18 h18, unitOf_ge18 (Nat.le_of_lt h18) hd, ← Int.mul_assoc, Int.ediv_mul_cancel hdvd]

theorem fromExt_nonneg (d : Nat) {a : Int} (ha : 0 ≤ a) : 0 ≤ fromExt d a :=
  convertDecimals_nonneg _ _ ha

theorem toExt3_value_le {d : Nat} (hd : d ≤ 36) (a f c : Int) :
    (toExt d a + toExt d f + toExt d c) * unitOf d ≤ (a + f + c) * unitOf 18 := by
  rw [Int.add_mul, Int.add_mul, Int.add_mul, Int.add_mul]
  exact Int.add_le_add (Int.add_le_add (toExt_value_le hd a) (toExt_value_le hd f)) (toExt_value_le hd c)

/-! ### Sums over the in-flight entries of a token -/

def tokSum (es : List Ste) (ext : String) : Int :=
  sumInts ((es.filter fun s => s.extToken == ext).map Ste.total)

theorem inflightOf_eq (h : Hub) (t : TokenInfo) :
    h.inflightOf t = tokSum (h.chain t.chain).entries t.extId * unitOf t.dec := rfl

@[simp] theorem tokSum_nil (ext : String) : tokSum [] ext = 0 := rfl

theorem tokSum_append (a b : List Ste) (ext : String) : tokSum (a ++ b) ext = tokSum a ext + tokSum b ext := by
  unfold tokSum
  rw [List.filter_append, List.map_append, sumInts_append]

theorem tokSum_perm {a b : List Ste} (h : a.Perm b) (ext : String) : tokSum a ext = tokSum b ext := by
  unfold tokSum
  exact sumInts_perm ((h.filter _).map _)

theorem tokSum_of_all {l : List Ste} {ext : String} (h : ∀ s ∈ l, s.extToken = ext) :
    tokSum l ext = sumInts (l.map Ste.total) := by
  unfold tokSum
  rw [List.filter_eq_self.mpr]
  intro s hs
  simp [h s hs]

theorem tokSum_of_none {l : List Ste} {ext : String} (h : ∀ s ∈ l, s.extToken ≠ ext) : tokSum l ext = 0 := by
  unfold tokSum
  rw [List.filter_eq_nil_iff.mpr]
  · rfl
  · intro s hs
    simp [h s hs]

theorem sumInts_total (l : List Ste) :
    sumInts (l.map Ste.total) = sumInts (l.map (·.amount)) + sumInts (l.map (·.fee)) + sumInts (l.map (·.comm)) := by
  have : l.map Ste.total = l.map (fun s => (s.amount + s.fee) + s.comm) := rfl
  rw [this, sumInts_map_add, sumInts_map_add]

/-! ### Token table lookups -/

theorem tokenById_mem {h : Hub} (hok : h.TokensOK) {t : TokenInfo} (hm : t ∈ h.tokens) :
    h.tokenById t.id = some t := by
  unfold Hub.tokenById
  cases hf : h.tokens.find? (fun x => x.id == t.id) with
  | none =>
    have := List.find?_eq_none.mp hf t hm
    simp at this
  | some x =>
    have hp := List.find?_some hf
    have hmem := List.mem_of_find?_eq_some hf
    simp at hp
    rw [hok.id_unique x hmem t hm hp]

theorem Hub.TokensOK.wf {h : Hub} (hok : h.TokensOK) : h.TokensWF := hok.ext_unique

theorem tokensOK_of_eq {h h' : Hub} (e : h'.tokens = h.tokens) (hok : h.TokensOK) : h'.TokensOK :=
  ⟨by rw [e]; exact hok.dec_le, by rw [e]; exact hok.ext_unique, by rw [e]; exact hok.denom_unique,
   by rw [e]; exact hok.id_unique⟩

theorem tokenByExt_of_tokens {h h' : Hub} (e : h'.tokens = h.tokens) (chain ext : String) :
    h'.tokenByExt chain ext = h.tokenByExt chain ext := by
  simp [Hub.tokenByExt, e]

theorem toExternal_of_tokens {h h' : Hub} (e : h'.tokens = h.tokens) (chain ext : String) (a : Int) :
    h'.toExternal chain ext a = h.toExternal chain ext a := by
  simp [Hub.toExternal, Hub.tokenByExt, e]

theorem fromExternal_of_tokens {h h' : Hub} (e : h'.tokens = h.tokens) (chain ext : String) (a : Int) :
    h'.fromExternal chain ext a = h.fromExternal chain ext a := by
  simp [Hub.fromExternal, Hub.tokenByExt, e]

/-! ### In-flight value under changes of the entries -/

theorem inflight_add {h h' : Hub} (htok : h'.tokens = h.tokens) (hok : h.TokensOK) (hnd : h.tokens.Nodup)
    {X : String} {add : List Ste} {t0 : TokenInfo} (ht0 : t0 ∈ h.tokens) (hX : t0.chain = X)
    (hadd : ∀ s ∈ add, s.extToken = t0.extId)
    (hperm : (h'.chain X).entries.Perm (add ++ (h.chain X).entries))
    (hoth : ∀ c, X ≠ c → (h'.chain c).entries.Perm (h.chain c).entries) (denom : String) :
    h'.inflight denom = h.inflight denom +
      (if t0.denom = denom then sumInts (add.map Ste.total) * unitOf t0.dec else 0) := by
  have hne : ∀ t ∈ h.tokens, t ≠ t0 → h'.inflightOf t = h.inflightOf t := by
    intro t ht hne
    rw [inflightOf_eq, inflightOf_eq]
    by_cases hc : X = t.chain
    · subst hc
      rw [tokSum_perm hperm, tokSum_append, tokSum_of_none, Int.zero_add]
      intro s hs he
      rw [hadd s hs] at he
      exact hne (hok.ext_unique t ht t0 ht0 hX.symm he.symm)
    · rw [tokSum_perm (hoth t.chain hc)]
  have h0 : h'.inflightOf t0 = h.inflightOf t0 + sumInts (add.map Ste.total) * unitOf t0.dec := by
    rw [inflightOf_eq, inflightOf_eq, hX, tokSum_perm hperm, tokSum_append, tokSum_of_all hadd, Int.add_mul]
    omega
  unfold Hub.inflight
  rw [htok]
  by_cases hd : t0.denom = denom
  · rw [if_pos hd]
    exact sumInts_map_update (hnd.filter _) (List.mem_filter.mpr ⟨ht0, by simpa using hd⟩)
      (fun t ht => hne t (List.mem_filter.mp ht).1) h0
  · rw [if_neg hd, Int.add_zero]
    refine sumInts_map_congr fun t ht => hne t (List.mem_filter.mp ht).1 fun e => hd ?_
    simpa [e] using (List.mem_filter.mp ht).2

theorem inflight_perm {h h' : Hub} (htok : h'.tokens = h.tokens)
    (hperm : ∀ c, (h'.chain c).entries.Perm (h.chain c).entries) (denom : String) :
    h'.inflight denom = h.inflight denom := by
  unfold Hub.inflight
  rw [htok]
  apply sumInts_map_congr
  intro t _
  rw [inflightOf_eq, inflightOf_eq, tokSum_perm (hperm t.chain)]

theorem value_def (h : Hub) (denom : String) :
    h.value denom = h.supplyOf denom * unitOf 18 + h.inflight denom := rfl

theorem supplyOf_of_supply {h h' : Hub} (e : h'.supply = h.supply) (d : String) : h'.supplyOf d = h.supplyOf d := by
  simp [Hub.supplyOf, e]

/-! ### The invariant bundle -/

def GoodSte (toks : List TokenInfo) (c : String) (s : Ste) : Prop :=
  (∃ t ∈ toks, t.chain = c ∧ t.extId = s.extToken ∧ t.id = s.tokenId ∧
    (s.refundChain = "" ∨ s.refundChain = "hub" ∨ ∃ t' ∈ toks, t'.chain = s.refundChain ∧ t'.denom = t.denom)) ∧
  0 ≤ s.amount ∧ 0 ≤ s.fee ∧ 0 ≤ s.comm

def Hub.BalOK (h : Hub) : Prop := ∀ acc d, 0 ≤ h.balance acc d

theorem Hub.BalOK.of_bal {h h' : Hub} (hb : h.BalOK) (e : h'.bal = h.bal) : h'.BalOK := by
  intro a d; simpa [Hub.balance, e] using hb a d

structure Hub.EntInv (h : Hub) : Prop where
  good : ∀ c, ∀ s ∈ (h.chain c).entries, GoodSte h.tokens c s
  bal : h.BalOK
  coh : ∀ c, ∀ b ∈ (h.chain c).batches, ∀ s ∈ b.txs, s.extToken = b.extToken

/-- Standing hypotheses of the value law. -/
structure Hub.VInv (h : Hub) : Prop where
  tok : h.TokensOK
  nodup : h.tokens.Nodup
  led : h.LedgerInv
  ent : h.EntInv

theorem Hub.EntInv.entriesOK {h : Hub} (hi : h.EntInv) : h.EntriesOK :=
  fun c s hs => let ⟨t, ht, h1, h2, h3, _⟩ := (hi.good c s hs).1; ⟨t, ht, h1, h2, h3⟩

theorem Hub.EntInv.batch_nonneg {h : Hub} (hi : h.EntInv) {c : String} {b : Batch} (hbm : b ∈ (h.chain c).batches) :
    0 ≤ sumInts (b.txs.map (·.amount)) ∧ 0 ≤ sumInts (b.txs.map (·.fee)) ∧ 0 ≤ sumInts (b.txs.map (·.comm)) := by
  have hg := fun s hs => (hi.good c s (ChainSt.mem_entries.mpr (.inr ⟨b, hbm, hs⟩))).2
  exact ⟨sumInts_map_nonneg fun s hs => (hg s hs).1, sumInts_map_nonneg fun s hs => (hg s hs).2.1,
    sumInts_map_nonneg fun s hs => (hg s hs).2.2⟩

theorem Hub.EntInv.of_same {h h' : Hub} (hi : h.EntInv) (htok : h'.tokens = h.tokens) (hbal : h.BalOK → h'.BalOK)
    (hp : ∀ c, (h'.chain c).pool = (h.chain c).pool) (hb : ∀ c, (h'.chain c).batches = (h.chain c).batches) :
    h'.EntInv := by
  refine ⟨fun c s hs => ?_, hbal hi.bal, fun c b hbm => ?_⟩
  · rw [htok]
    apply hi.good c s
    unfold ChainSt.entries at hs ⊢
    rw [hp c, hb c] at hs
    exact hs
  · rw [hb c] at hbm
    exact hi.coh c b hbm

/-- One step that keeps the token table and the invariants and changes the value of `denom` by at
    most `δ` (the post-state's counters being below `2^64`). -/
structure VRel (denom : String) (δ : Int) (h h' : Hub) : Prop where
  step : Hub.Step h h'
  tokens : h'.tokens = h.tokens
  ent : h.VInv → h'.Bounded → h'.EntInv
  le : h.VInv → h'.Bounded → h'.value denom ≤ h.value denom + δ

theorem VRel.inv {denom : String} {δ : Int} {h h' : Hub} (r : VRel denom δ h h') (hi : h.VInv) (hb : h'.Bounded) :
    h'.VInv :=
  ⟨tokensOK_of_eq r.tokens hi.tok, by rw [r.tokens]; exact hi.nodup, r.step.inv hi.led hb, r.ent hi hb⟩

theorem VRel.refl (denom : String) (h : Hub) : VRel denom 0 h h :=
  ⟨Hub.Step.refl h, rfl, fun hi _ => hi.ent, fun _ _ => by omega⟩

theorem VRel.trans {denom : String} {δ1 δ2 : Int} {a b c : Hub} (h1 : VRel denom δ1 a b) (h2 : VRel denom δ2 b c) :
    VRel denom (δ1 + δ2) a c := by
  refine ⟨h1.step.trans h2.step, h2.tokens.trans h1.tokens, fun hi hb => ?_, fun hi hb => ?_⟩
  · exact h2.ent (h1.inv hi (hb.mono h2.step)) hb
  · have hbb := hb.mono h2.step
    have := h1.le hi hbb
    have := h2.le (h1.inv hi hbb) hb
    omega

theorem VRel.mono {denom : String} {δ δ' : Int} {h h' : Hub} (r : VRel denom δ h h') (hle : δ ≤ δ') :
    VRel denom δ' h h' :=
  ⟨r.step, r.tokens, r.ent, fun hi hb => by have := r.le hi hb; omega⟩

theorem VRel.trans0 {denom : String} {a b c : Hub} (h1 : VRel denom 0 a b) (h2 : VRel denom 0 b c) :
    VRel denom 0 a c := (h1.trans h2).mono (by omega)

structure VEq (h h' : Hub) : Prop where
  step : Hub.Step h h'
  tokens : h'.tokens = h.tokens
  ent : h.VInv → h'.Bounded → h'.EntInv
  eq : h.VInv → h'.Bounded → ∀ denom, h'.value denom = h.value denom

theorem VEq.toVRel {h h' : Hub} (r : VEq h h') (denom : String) : VRel denom 0 h h' :=
  ⟨r.step, r.tokens, r.ent, fun hi hb => by rw [r.eq hi hb]; omega⟩

theorem VEq.inv {h h' : Hub} (r : VEq h h') (hi : h.VInv) (hb : h'.Bounded) : h'.VInv :=
  (r.toVRel "").inv hi hb

theorem VEq.refl (h : Hub) : VEq h h := ⟨Hub.Step.refl h, rfl, fun hi _ => hi.ent, fun _ _ _ => rfl⟩

theorem VEq.trans {a b c : Hub} (h1 : VEq a b) (h2 : VEq b c) : VEq a c := by
  refine ⟨h1.step.trans h2.step, h2.tokens.trans h1.tokens, fun hi hb => ?_, fun hi hb d => ?_⟩
  · exact h2.ent (h1.inv hi (hb.mono h2.step)) hb
  · have hbb := hb.mono h2.step
    rw [h2.eq (h1.inv hi hbb) hb, h1.eq hi hbb]

theorem VEq.of_same {h h' : Hub} (hs : Hub.SameLedger h h') (htok : h'.tokens = h.tokens)
    (hsup : h'.supply = h.supply) (hbal : h'.bal = h.bal) : VEq h h' := by
  have he : ∀ c, (h'.chain c).entries = (h.chain c).entries := fun c =>
    ChainSt.entries_of_same (hs c).1 (hs c).2.1
  refine ⟨hs.keeps.step, htok, fun hi _ => hi.ent.of_same htok (fun hb => hb.of_bal hbal) (fun c => (hs c).1) (fun c => (hs c).2.1),
    fun _ _ d => ?_⟩
  rw [value_def, value_def, supplyOf_of_supply hsup, inflight_perm htok (fun c => by rw [he c])]

theorem VEq.of_cs {h h' : Hub} (hcs : h'.cs = h.cs) (htok : h'.tokens = h.tokens)
    (hsup : h'.supply = h.supply) (hbal : h'.bal = h.bal) : VEq h h' :=
  VEq.of_same (Hub.SameLedger.of_cs hcs) htok hsup hbal

theorem VRel.of_fields {denom : String} {h h' : Hub} (hcs : h'.cs = h.cs) (htok : h'.tokens = h.tokens)
    (hsup : h'.supply = h.supply) (hbal : h'.bal = h.bal) : VRel denom 0 h h' :=
  (VEq.of_cs hcs htok hsup hbal).toVRel denom

/-! ### Bank writes -/

/-- The value credited to `denom` by `x` hub units of `d`. -/
def hubCredit (d denom : String) (x : Int) : Int := if d = denom then x * unitOf 18 else 0

/-- The value locked externally by `a` external units of token `t`, as seen by `denom`. -/
def extCredit (t : TokenInfo) (denom : String) (a : Int) : Int := if t.denom = denom then extValue t a else 0

theorem hubCredit_mono (d denom : String) {x y : Int} (h : x ≤ y) : hubCredit d denom x ≤ hubCredit d denom y := by
  unfold hubCredit
  split
  · exact Int.mul_le_mul_of_nonneg_right h (Int.le_of_lt (unitOf_pos _))
  · omega

theorem hubCredit_add (d denom : String) (x y : Int) :
    hubCredit d denom (x + y) = hubCredit d denom x + hubCredit d denom y := by
  unfold hubCredit
  split
  · rw [Int.add_mul]
  · omega

theorem hubCredit_neg (d denom : String) (x : Int) : hubCredit d denom (-x) = -hubCredit d denom x := by
  unfold hubCredit
  split
  · rw [Int.neg_mul]
  · omega

theorem hubCredit_nonneg (d denom : String) {x : Int} (hx : 0 ≤ x) : 0 ≤ hubCredit d denom x := by
  unfold hubCredit
  split
  · exact mul_unit_nonneg hx 18
  · omega

@[simp] theorem hubCredit_zero (d denom : String) : hubCredit d denom 0 = 0 := by
  unfold hubCredit; split <;> simp

theorem bankWrite_value (h : Hub) (acc d : String) (x : Int) (denom : String) :
    (h.bankWrite acc d x).value denom = h.value denom + hubCredit d denom x := by
  obtain ⟨hcs, htok, _⟩ := bankWrite_fields h acc d x
  rw [value_def, value_def, bankWrite_supply, inflight_perm htok (fun c => by rw [chain_of_cs hcs])]
  unfold hubCredit
  by_cases hd : d = denom
  · rw [if_pos hd, if_pos hd, Int.add_mul]; omega
  · rw [if_neg hd, if_neg hd, Int.add_zero]; omega

theorem bankWrite_balOK {h : Hub} {acc d : String} {x : Int} (hb : h.BalOK) (hx : 0 ≤ h.balance acc d + x) :
    (h.bankWrite acc d x).BalOK := by
  intro a dn
  rw [bankWrite_balance]
  have := hb a dn
  split
  · rename_i e
    injection e with e1 e2
    subst e1 e2
    exact hx
  · omega

theorem bankWrite_vrel (h : Hub) (acc d : String) (x : Int) (denom : String)
    (hx : h.BalOK → 0 ≤ h.balance acc d + x) : VRel denom (hubCredit d denom x) h (h.bankWrite acc d x) := by
  obtain ⟨hcs, htok, _⟩ := bankWrite_fields h acc d x
  refine ⟨Hub.Step.of_cs hcs, htok, fun hi _ => hi.ent.of_same htok (fun hb => bankWrite_balOK hb (hx hb))
    (fun c => by rw [chain_of_cs hcs]) (fun c => by rw [chain_of_cs hcs]), fun _ _ => ?_⟩
  rw [bankWrite_value]
  exact Int.le_refl _

theorem mintTo_value {h h' : Hub} {acc d : String} {amt : Int} (hm : h.mintTo acc d amt = .ok h') (denom : String) :
    h'.value denom = h.value denom + hubCredit d denom amt := by
  obtain ⟨_, rfl⟩ := mintTo_eq hm
  exact bankWrite_value h acc d amt denom

theorem mintTo_vrel {h h' : Hub} {acc d : String} {amt : Int} (hm : h.mintTo acc d amt = .ok h') (denom : String) :
    VRel denom (hubCredit d denom amt) h h' := by
  obtain ⟨hpos, rfl⟩ := mintTo_eq hm
  exact bankWrite_vrel h acc d amt denom (fun hb => by have := hb acc d; omega)

/-! ### `createSendToExternal` -/

def Hub.steValue (h : Hub) (chain denom : String) (s : Ste) : Int :=
  match h.tokenByExt chain s.extToken with
  | some t => extCredit t denom s.total
  | none => 0

theorem steValue_of_tokens {h h' : Hub} (e : h'.tokens = h.tokens) (chain denom : String) (s : Ste) :
    h'.steValue chain denom s = h.steValue chain denom s := by
  simp [Hub.steValue, Hub.tokenByExt, e]

theorem steValue_of_tok {h : Hub} (hok : h.TokensOK) {t : TokenInfo} (ht : t ∈ h.tokens) {s : Ste}
    (he : t.extId = s.extToken) (denom : String) : h.steValue t.chain denom s = extCredit t denom s.total := by
  unfold Hub.steValue
  rw [← he, tokenByExt_of_mem hok.wf ht]

def Hub.addSte (h : Hub) (chain : String) (s : Ste) : Hub :=
  h.setChain chain { h.chain chain with lastSteId := s.id, pool := insertByKey poolKey s (h.chain chain).pool }

theorem addSte_chain (h : Hub) (chain : String) (s : Ste) :
    ((h.addSte chain s).chain chain).pool = insertByKey poolKey s (h.chain chain).pool ∧
    ((h.addSte chain s).chain chain).batches = (h.chain chain).batches ∧
    ((h.addSte chain s).chain chain).lastSteId = s.id ∧
    ∀ c, chain ≠ c → (h.addSte chain s).chain c = h.chain c := by
  unfold Hub.addSte
  rw [chain_setChain]
  exact ⟨rfl, rfl, rfl, fun c hc => chain_setChain_ne _ _ hc⟩

theorem createSte_eq {h h' : Hub} {chain sender rcp dn tx rc ra : String} {a f cm : Int} {id : Nat}
    (hok : h.createSte chain sender rcp dn a f cm tx rc ra = .ok (h', id)) :
    ∃ tok, h.tokenByDenom chain dn = some tok ∧ 0 < a + f + cm ∧ a + f + cm ≤ h.balance sender dn ∧
      id = (h.chain chain).lastSteId + 1 ∧
      h' = (h.bankWrite sender dn (-(a + f + cm))).addSte chain
        ((h.bankWrite sender dn (-(a + f + cm))).newSte chain sender rcp tok a f cm tx rc ra) := by
  obtain ⟨tok, hb, htok, hburn, hn, rfl⟩ := createSte_ok hok
  obtain ⟨hpos, hle, rfl⟩ := burnFrom_eq hburn
  refine ⟨tok, htok, hpos, hle, ?_, ?_⟩
  · rw [hn, chain_of_cs (bankWrite_fields _ _ _ _).1]
  · subst hn; rfl

theorem addSte_value {h : Hub} (htk : h.TokensOK) (hnd : h.tokens.Nodup) (hi : h.LedgerInv) {chain : String}
    {s : Ste} (hid : s.id = (h.chain chain).lastSteId + 1) (hb : (h.addSte chain s).Bounded) {t : TokenInfo}
    (ht : t ∈ h.tokens) (hc : t.chain = chain) (he : s.extToken = t.extId) (denom : String) :
    (h.addSte chain s).value denom = h.value denom + extCredit t denom s.total := by
  obtain ⟨e1, e2, e3, e5⟩ := addSte_chain h chain s
  have hpe := (ChainSt.addPool_perm hid e3 e1 e2 (Hub.ledgerInv_iff.mp hi chain) (hb chain)).2
  have hinf := inflight_add (h := h) (h' := h.addSte chain s) (add := [s]) rfl htk hnd ht hc
    (fun x hx => by rw [List.mem_singleton.mp hx]; exact he) (by simpa using hpe)
    (fun c hc => by rw [e5 c hc]) denom
  rw [value_def, value_def, hinf]
  unfold extCredit extValue
  simp only [List.map_cons, List.map_nil, sumInts_cons, sumInts_nil, Int.add_zero]
  show h.supplyOf denom * unitOf 18 + _ = _
  omega

theorem addSte_entInv {h : Hub} (hi : h.EntInv) {chain : String} {s : Ste} (hg : GoodSte h.tokens chain s) :
    (h.addSte chain s).EntInv := by
  obtain ⟨e1, e2, _, e5⟩ := addSte_chain h chain s
  refine ⟨fun c x hx => ?_, hi.bal.of_bal rfl, fun c b hbm => ?_⟩
  · by_cases hcc : chain = c
    · subst hcc
      rcases ChainSt.mem_entries.mp hx with hx | hx
      · rw [e1] at hx
        rcases mem_insertByKey_cases poolKey hx with hx | hx
        · rw [hx]; exact hg
        · exact hi.good chain x (ChainSt.mem_entries.mpr (.inl hx))
      · rw [e2] at hx
        exact hi.good chain x (ChainSt.mem_entries.mpr (.inr hx))
    · rw [e5 c hcc] at hx
      exact hi.good c x hx
  · by_cases hcc : chain = c
    · subst hcc
      rw [e2] at hbm
      exact hi.coh chain b hbm
    · rw [e5 c hcc] at hbm
      exact hi.coh c b hbm

theorem createSte_value_eq {h h' : Hub} {chain sender rcp dn tx rc ra : String} {a f cm : Int} {id : Nat}
    (hok : h.createSte chain sender rcp dn a f cm tx rc ra = .ok (h', id))
    (htk : h.TokensOK) (hnd : h.tokens.Nodup) (hi : h.LedgerInv) (hb : h'.Bounded) (denom : String) :
    ∃ tok, h.tokenByDenom chain dn = some tok ∧
      h'.value denom = h.value denom - hubCredit dn denom (a + f + cm) +
        (if dn = denom then (toExt tok.dec a + toExt tok.dec f + toExt tok.dec cm) * unitOf tok.dec else 0) := by
  obtain ⟨tok, htok, _, _, _, rfl⟩ := createSte_eq hok
  obtain ⟨hmem, hchain, hdn⟩ := tokenByDenom_some htok
  refine ⟨tok, htok, ?_⟩
  obtain ⟨hcs, etk, _⟩ := bankWrite_fields h sender dn (-(a + f + cm))
  have hv := bankWrite_value h sender dn (-(a + f + cm)) denom
  generalize h.bankWrite sender dn (-(a + f + cm)) = v at hb hcs etk hv ⊢
  have htk' := tokensOK_of_eq etk htk
  have hmem' : tok ∈ v.tokens := by rw [etk]; exact hmem
  have hte : ∀ x, v.toExternal chain tok.extId x = toExt tok.dec x := by
    intro x
    unfold Hub.toExternal
    rw [← hchain, tokenByExt_of_mem htk'.wf hmem']
  rw [addSte_value htk' (by rw [etk]; exact hnd) (fun c => by rw [chain_of_cs hcs]; exact hi c) rfl hb hmem' hchain rfl,
    hv, hubCredit_neg]
  unfold extCredit extValue Ste.total Hub.newSte
  simp only [hte, hdn]
  omega

theorem createSte_value_le {h h' : Hub} {chain sender rcp dn tx rc ra : String} {a f cm : Int} {id : Nat}
    (hok : h.createSte chain sender rcp dn a f cm tx rc ra = .ok (h', id))
    (htk : h.TokensOK) (hnd : h.tokens.Nodup) (hi : h.LedgerInv) (hb : h'.Bounded) (denom : String) :
    h'.value denom ≤ h.value denom := by
  obtain ⟨tok, htok, he⟩ := createSte_value_eq hok htk hnd hi hb denom
  rw [he]
  have hd := htk.dec_le tok (tokenByDenom_some htok).1
  have := toExt3_value_le hd a f cm
  unfold hubCredit
  split <;> omega

theorem createSte_vrel {h h' : Hub} {chain sender rcp dn tx rc ra : String} {a f cm : Int} {id : Nat}
    (hok : h.createSte chain sender rcp dn a f cm tx rc ra = .ok (h', id))
    (ha : 0 ≤ a) (hf : 0 ≤ f) (hc : 0 ≤ cm)
    (hrc : rc = "" ∨ rc = "hub" ∨ ∃ t' ∈ h.tokens, t'.chain = rc ∧ t'.denom = dn) (denom : String) :
    VRel denom 0 h h' := by
  refine ⟨(createSte_keeps hok).step, ?_, fun hi hb => ?_, fun hi hb => ?_⟩
  · obtain ⟨_, _, _, _, _, rfl⟩ := createSte_eq hok
    exact (bankWrite_fields _ _ _ _).2.1
  · obtain ⟨tok, htok, _, hle, _, rfl⟩ := createSte_eq hok
    obtain ⟨hmem, hchain, hdn⟩ := tokenByDenom_some htok
    obtain ⟨hcs, etk, _⟩ := bankWrite_fields h sender dn (-(a + f + cm))
    have hent := hi.ent.of_same etk (fun hbal => bankWrite_balOK hbal (by omega))
      (fun c => by rw [chain_of_cs hcs]) (fun c => by rw [chain_of_cs hcs])
    refine addSte_entInv hent ⟨⟨tok, by rw [etk]; exact hmem, hchain, rfl, rfl, ?_⟩,
      toExternal_nonneg _ _ _ ha, toExternal_nonneg _ _ _ hf, toExternal_nonneg _ _ _ hc⟩
    rw [etk, hdn]
    exact hrc
  · have := createSte_value_le hok hi.tok hi.nodup hi.led hb denom
    omega

/-! ### Steps that only move transfers between pool and batches -/

theorem ChainSt.Keeps.entries_perm {c c' : ChainSt} (hk : ChainSt.Keeps c c') (hi : c.Inv) (hb : c'.Bounded)
    (hl : c'.lastSteId = c.lastSteId) : c'.entries.Perm c.entries := by
  have hi' := hk.inv hi hb
  rw [List.perm_ext_iff_of_nodup hi'.entries_nodup hi.entries_nodup]
  intro s
  constructor
  · intro hs
    have hid : s.id ∈ c'.ids := ChainSt.mem_ids.mpr ⟨s, hs, rfl⟩
    rcases hk.sub s.id hid with h1 | h1
    · obtain ⟨s0, hs0, he⟩ := ChainSt.mem_ids.mp h1
      have hs0' := hk.keep hi hb s0 hs0
      rw [← hi'.entry_inj hs0' hs he]
      exact hs0
    · omega
  · exact hk.keep hi hb s

theorem Hub.EntInv.of_sub {h h' : Hub} (hi : h.EntInv) (htok : h'.tokens = h.tokens) (hbal : h'.bal = h.bal)
    (hsub : ∀ c, ∀ s ∈ (h'.chain c).entries, s ∈ (h.chain c).entries)
    (hcoh : ∀ c, ∀ b ∈ (h'.chain c).batches, b ∈ (h.chain c).batches ∨ ∀ s ∈ b.txs, s.extToken = b.extToken) :
    h'.EntInv := by
  refine ⟨fun c s hs => ?_, hi.bal.of_bal hbal, fun c b hbm => ?_⟩
  · rw [htok]; exact hi.good c s (hsub c s hs)
  · rcases hcoh c b hbm with h1 | h1
    · exact hi.coh c b h1
    · exact h1

theorem VEq.of_keeps {h h' : Hub} {chain : String} (hk : Hub.Keeps h h') (ho : Hub.OnlyChain chain h h')
    (hl : (h'.chain chain).lastSteId = (h.chain chain).lastSteId)
    (htok : h'.tokens = h.tokens) (hsup : h'.supply = h.supply) (hbal : h'.bal = h.bal)
    (hcoh : ∀ b ∈ (h'.chain chain).batches, b ∈ (h.chain chain).batches ∨ ∀ s ∈ b.txs, s.extToken = b.extToken) :
    VEq h h' := by
  have hp : h.VInv → h'.Bounded → ∀ c, (h'.chain c).entries.Perm (h.chain c).entries := fun hi hb c =>
    (hk c).entries_perm (Hub.ledgerInv_iff.mp hi.led c) (hb c) (by
      by_cases hc : chain = c
      · subst hc; exact hl
      · rw [ho c hc])
  refine ⟨hk.step, htok, fun hi hb => hi.ent.of_sub htok hbal (fun c s hs => (hp hi hb c).subset hs) fun c b hbm => ?_,
    fun hi hb d => ?_⟩
  · by_cases hc : chain = c
    · subst hc; exact hcoh b hbm
    · rw [ho c hc] at hbm; exact .inl hbm
  · rw [value_def, value_def, supplyOf_of_supply hsup, inflight_perm htok (hp hi hb)]

theorem VEq.setChain {h : Hub} {c : String} {s : ChainSt} (hp : s.pool = (h.chain c).pool)
    (hb : s.batches = (h.chain c).batches) (hl : s.lastSteId = (h.chain c).lastSteId)
    (hn : s.lastBatchNonce = (h.chain c).lastBatchNonce) : VEq h (h.setChain c s) :=
  VEq.of_same (Hub.SameLedger.setChain hp hb hl hn) rfl rfl rfl

theorem buildBatch_fields (h : Hub) (chain tok : String) (n : Nat) :
    (h.buildBatch chain tok n).1.tokens = h.tokens ∧ (h.buildBatch chain tok n).1.supply = h.supply ∧
    (h.buildBatch chain tok n).1.bal = h.bal := by
  rw [buildBatch_eq]
  by_cases he : (selectForBatch (h.chain chain).pool tok n).isEmpty = true
  · rw [if_pos he]; exact ⟨rfl, rfl, rfl⟩
  · rw [if_neg he]
    dsimp only
    have e := markBatched_frame h (selectForBatch (h.chain chain).pool tok n)
    exact ⟨by rw [e]; rfl, by rw [e]; rfl, by rw [e]; rfl⟩

theorem buildBatch_veq (h : Hub) (chain tok : String) (n : Nat) : VEq h (h.buildBatch chain tok n).1 := by
  rcases buildBatch_eff h chain tok n with ⟨_, he⟩ | ⟨b0, _, htx, hext, _, hbb, _, hl, _⟩
  · rw [he]; exact VEq.refl _
  · refine VEq.of_keeps (buildBatch_keeps h chain tok n) (buildBatch_only h chain tok n) hl
      (buildBatch_fields h chain tok n).1 (buildBatch_fields h chain tok n).2.1 (buildBatch_fields h chain tok n).2.2
      fun b hbm => ?_
    rw [hbb] at hbm
    rcases mem_insertByKey_cases batchKey hbm with h1 | h1
    · subst h1
      refine .inr fun s hs => ?_
      rw [htx] at hs
      rw [hext]; exact (mem_selectForBatch hs).2
    · exact .inl h1

theorem cancelBatch_veq {h h' : Hub} {chain tok : String} {n : Nat} (hok : h.cancelBatch chain tok n = .ok h') :
    VEq h h' := by
  obtain ⟨b, hfb, _, e2, e3, _, _, e6⟩ := cancelBatch_eff hok
  have hf : h'.tokens = h.tokens ∧ h'.supply = h.supply ∧ h'.bal = h.bal := by
    obtain ⟨_, _, _, rfl⟩ := cancelBatch_ok hok; exact ⟨rfl, rfl, rfl⟩
  refine VEq.of_keeps (cancelBatch_keeps hok) e6 e3 hf.1 hf.2.1 hf.2.2 fun b' hbm => ?_
  rw [e2] at hbm
  exact .inl ((eraseByKey_sublist _ _ _).subset hbm)

theorem requestBatch_veq {h h' : Hub} {chain denom : String} {ob : Option Batch}
    (hok : h.requestBatch chain denom = .ok (h', ob)) : VEq h h' := by
  obtain ⟨_, t, _, e⟩ := requestBatch_ok hok
  have := buildBatch_veq h chain t.extId 100
  rw [e] at this
  exact this

theorem createBatches_veq (h : Hub) (chain : String) : VEq h (h.createBatches chain) :=
  createBatches_rel VEq.refl VEq.trans (fun a tok => buildBatch_veq a chain tok 100) h

theorem cleanup_veq {h h' : Hub} {chain : String} (hok : h.cleanupTimedOutBatches chain = .ok h') : VEq h h' :=
  cleanup_rel VEq.refl VEq.trans cancelBatch_veq hok

theorem VEq.of_side {chain : String} {h h' : Hub} (hw : SideWrite chain h h') : VEq h h' := by
  rcases hw with rfl | ⟨s, rfl, h1, h2, h3, h4, _⟩
  · exact VEq.refl _
  · exact VEq.setChain h1 h2 h3 h4

theorem beginBlock_veq {h h' : Hub} (hok : h.beginBlock = .ok h') : VEq h h' :=
  beginBlock_rel VEq.refl VEq.trans cleanup_veq (fun a c tok => buildBatch_veq a c tok 100)
    (fun e => .of_side (createSignerSetTxs_side e)) (fun a c => .of_side (pruneSignerSets_side a c)) hok

/-! ### Removing a pool entry or a batch -/

theorem VRel.of_remove {denom : String} {δ : Int} {h h' : Hub} {X : String} {rem : List Ste}
    (hstep : Hub.Step h h') (htok : h'.tokens = h.tokens) (hsup : h'.supply = h.supply) (hbal : h'.bal = h.bal)
    (hoth : ∀ c, X ≠ c → h'.chain c = h.chain c)
    (hbs : ∀ b ∈ (h'.chain X).batches, b ∈ (h.chain X).batches)
    (hrem : h.VInv → h'.Bounded → (h.chain X).entries.Perm (rem ++ (h'.chain X).entries) ∧
      ∃ t ∈ h.tokens, t.chain = X ∧ (∀ s ∈ rem, s.extToken = t.extId) ∧
        δ = -(extCredit t denom (sumInts (rem.map Ste.total)))) :
    VRel denom δ h h' := by
  refine ⟨hstep, htok, fun hi hb => ?_, fun hi hb => ?_⟩
  · obtain ⟨hp, _⟩ := hrem hi hb
    refine hi.ent.of_sub htok hbal (fun c x hx => ?_) (fun c b hbm => .inl ?_)
    · by_cases hc : X = c
      · subst hc; exact hp.symm.subset (List.mem_append_right _ hx)
      · rw [hoth c hc] at hx; exact hx
    · by_cases hc : X = c
      · subst hc; exact hbs b hbm
      · rw [hoth c hc] at hbm; exact hbm
  · obtain ⟨hp, t, ht, htc, hte, rfl⟩ := hrem hi hb
    have hinf := inflight_add (h := h') (h' := h) (add := rem) htok.symm (tokensOK_of_eq htok hi.tok)
      (by rw [htok]; exact hi.nodup) (by rw [htok]; exact ht) htc hte hp (fun c hc => by rw [hoth c hc]) denom
    rw [value_def, value_def, hinf, supplyOf_of_supply hsup]
    unfold extCredit extValue
    split <;> omega

theorem cancelFinish_vrel (hm : Hub) (chain : String) (s : Ste) (denom : String)
    (hs : hm.VInv → (hm.cancelFinish chain s).Bounded → s ∈ (hm.chain chain).pool) :
    VRel denom (-(hm.steValue chain denom s)) hm (hm.cancelFinish chain s) := by
  obtain ⟨f1, f2, f3, _, f5⟩ := cancelFinish_chain hm chain s
  refine VRel.of_remove (X := chain) (rem := [s]) (cancelFinish_step hm chain s) rfl rfl rfl f5
    (fun b hb => by rw [← f2]; exact hb) fun hi hb => ?_
  have hsm := hs hi hb
  have hbd : (hm.chain chain).lastSteId < 2 ^ 64 := by rw [← f3]; exact (hb chain).1
  obtain ⟨⟨t, ht, htc, hte, _, _⟩, _⟩ := hi.ent.good chain s (ChainSt.mem_entries.mpr (.inl hsm))
  refine ⟨ChainSt.erasePool_perm hsm f1 f2 (Hub.ledgerInv_iff.mp hi.led chain) hbd, t, ht, htc,
    fun x hx => by rw [List.mem_singleton.mp hx]; exact hte.symm, ?_⟩
  rw [← htc, steValue_of_tok hi.tok ht hte denom, List.map_cons, List.map_nil, sumInts_cons, sumInts_nil,
    Int.add_zero]

theorem eraseBatch_vrel (v : Hub) (chain : String) (b : Batch) (t : TokenInfo) (denom : String)
    (ht : v.tokenByExt chain b.extToken = some t) (hbm : v.VInv → b ∈ (v.chain chain).batches) :
    VRel denom (-(extCredit t denom (sumInts (b.txs.map Ste.total)))) v
      (v.setChain chain { (v.chain chain) with
        batches := eraseByKey batchKey (batchKey b) (v.chain chain).batches }) := by
  have hsl := eraseByKey_sublist batchKey (batchKey b) (v.chain chain).batches
  refine VRel.of_remove (X := chain) (rem := b.txs)
    (Hub.Step.setChain (ChainSt.Step.of_sublist rfl rfl (List.Sublist.refl _) hsl)) rfl rfl rfl
    (fun c hc => chain_setChain_ne _ _ hc) (fun x hx => by rw [chain_setChain] at hx; exact hsl.subset hx)
    fun hi hb => ?_
  obtain ⟨htm, htc, hte⟩ := tokenByExt_some ht
  refine ⟨?_, t, htm, htc, fun x hx => by rw [hi.ent.coh chain b (hbm hi) x hx, hte], rfl⟩
  have hbd : (v.chain chain).Bounded := by have := hb chain; rw [chain_setChain] at this; exact this
  have hbp := (ChainSt.eraseBatch_perm (c' := (v.setChain chain { (v.chain chain) with
      batches := eraseByKey batchKey (batchKey b) (v.chain chain).batches }).chain chain) (hbm hi)
    (by rw [chain_setChain]) (by rw [chain_setChain]) (Hub.ledgerInv_iff.mp hi.led chain) hbd).1
  rw [chain_setChain] at hbp ⊢
  unfold ChainSt.entries
  have h1 : ((v.chain chain).batches.flatMap (·.txs)).Perm
      (b.txs ++ (eraseByKey batchKey (batchKey b) (v.chain chain).batches).flatMap (·.txs)) := by
    simpa using hbp.flatMap_right (·.txs)
  refine (List.Perm.append_left _ h1).trans ?_
  rw [← List.append_assoc, ← List.append_assoc]
  exact List.perm_append_comm.append_right _

/-! ### `cancelSendToExternal` -/

theorem VRel.of_imp {denom : String} {δ : Int} {h h' : Hub} (hstep : Hub.Step h h') (htok : h'.tokens = h.tokens)
    (H : h.VInv → h'.Bounded → VRel denom δ h h') : VRel denom δ h h' :=
  ⟨hstep, htok, fun hi hb => (H hi hb).ent hi hb, fun hi hb => (H hi hb).le hi hb⟩

theorem refund_of_good {h : Hub} (hi : h.VInv) {chain : String} {s : Ste} (hs : s ∈ (h.chain chain).entries) :
    ∃ t ∈ h.tokens, h.denomOfTokenId s.tokenId = t.denom ∧
      h.refundValue chain s = fromExt t.dec s.total ∧
      ∀ denom, h.steValue chain denom s = extCredit t denom s.total := by
  obtain ⟨⟨t, ht, htc, hte, hti, _⟩, _⟩ := hi.ent.good chain s hs
  refine ⟨t, ht, ?_, ?_, fun denom => ?_⟩
  · unfold Hub.denomOfTokenId
    rw [← hti, tokenById_mem hi.tok ht]
  · unfold Hub.refundValue Hub.fromExternal
    rw [← hte, ← htc, tokenByExt_of_mem hi.tok.wf ht]
    rfl
  · rw [← htc]; exact steValue_of_tok hi.tok ht hte denom

theorem hubCredit_fromExt_le {t : TokenInfo} (hd : t.dec ≤ 36) (denom : String) (a : Int) :
    hubCredit t.denom denom (fromExt t.dec a) ≤ extCredit t denom a := by
  unfold hubCredit extCredit extValue
  split
  · exact fromExt_value_le hd a
  · omega

theorem refund_le_steValue {h : Hub} (hi : h.VInv) {chain : String} {s : Ste} (hs : s ∈ (h.chain chain).entries)
    (denom : String) :
    hubCredit (h.denomOfTokenId s.tokenId) denom (h.refundValue chain s) ≤ h.steValue chain denom s := by
  obtain ⟨t, ht, hdn, hrv, hsv⟩ := refund_of_good hi hs
  rw [hdn, hrv, hsv denom]
  exact hubCredit_fromExt_le (hi.tok.dec_le t ht) denom _

theorem refund_finish_vrel {h h2 : Hub} {chain acc denom : String} {s : Ste} (hsm : s ∈ (h.chain chain).pool)
    (hnn : 0 ≤ h.refundValue chain s)
    (r2 : VRel denom 0 (h.bankWrite acc (h.denomOfTokenId s.tokenId) (h.refundValue chain s)) h2)
    (hs2 : (h.bankWrite acc (h.denomOfTokenId s.tokenId) (h.refundValue chain s)).LedgerInv → h2.Bounded →
      s ∈ (h2.chain chain).pool) :
    VRel denom 0 h (h2.cancelFinish chain s) := by
  have r1 := bankWrite_vrel h acc (h.denomOfTokenId s.tokenId) (h.refundValue chain s) denom
    (fun hb => by have := hb acc (h.denomOfTokenId s.tokenId); omega)
  have r12 := r1.trans r2
  refine VRel.of_imp (r12.step.trans (cancelFinish_step h2 chain s)) r12.tokens fun hi hb => ?_
  have hb2 : h2.Bounded := hb.mono (cancelFinish_step h2 chain s)
  have hi1 := r1.inv hi (hb2.mono r2.step)
  have r3 := cancelFinish_vrel h2 chain s denom (fun _ _ => hs2 hi1.led hb2)
  refine (r12.trans r3).mono ?_
  have := refund_le_steValue hi (ChainSt.mem_entries.mpr (.inl hsm)) denom
  rw [steValue_of_tokens r12.tokens]
  omega

theorem cancelSte_none_vrel {h h' : Hub} {chain sender : String} {id : Nat}
    (hok : h.cancelSte chain id sender = (h', none)) (denom : String) : VRel denom 0 h h' := by
  rcases cancelSte_cases h chain id sender with ⟨_, e, _⟩ | ⟨s, hl, _, hnn, hc⟩
  · rw [e] at hok; cases hok
  have hsm := (cancelLookup_some hl).1
  have hkeep : ∀ acc, s ∈ ((h.bankWrite acc (h.denomOfTokenId s.tokenId) (h.refundValue chain s)).chain chain).pool :=
    fun acc => by rw [chain_of_cs (bankWrite_fields _ _ _ _).1]; exact hsm
  -- a refund on the hub
  have hhub : ∀ acc, VRel denom 0 h
      ((h.bankWrite acc (h.denomOfTokenId s.tokenId) (h.refundValue chain s)).cancelFinish chain s) :=
    fun acc => refund_finish_vrel hsm hnn (VRel.refl denom _) fun _ _ => hkeep acc
  rcases hc with ⟨_, e⟩ | ⟨_, e⟩ | ⟨_, _, ⟨_, _, e⟩ | ⟨h2, _, hc, e⟩⟩
  all_goals
    rw [e] at hok
    injection hok with hok hn
  · subst hok; exact hhub _
  · subst hok; exact hhub _
  · cases hn
  · subst hok
    exact refund_finish_vrel hsm hnn (createSte_vrel hc hnn (Int.le_refl 0) (Int.le_refl 0) (.inl rfl) denom)
      fun hi hb => (PoolGrow.createSte hc).pool hi hb chain s (hkeep _)

theorem cancelMsg_vrel {h h' : Hub} {sender chain : String} {id : Nat} (hok : h.cancelMsg sender chain id = .ok h')
    (denom : String) : VRel denom 0 h h' :=
  cancelSte_none_vrel (cancelMsg_ok hok).2.2 denom

/-- A failing cancel returns the state unchanged, except for the partial failure on the path to a
    foreign refund chain, which keeps the freshly minted refund AND the pool entry. -/
theorem cancelSte_fail_cases {h h' : Hub} {chain sender : String} {id : Nat} {e : Err}
    (hok : h.cancelSte chain id sender = (h', some e)) :
    h' = h ∨ ∃ s, s ∈ (h.chain chain).pool ∧ s.id = id ∧ s.refundChain ≠ "" ∧ s.refundChain ≠ "hub" ∧
      0 ≤ h.refundValue chain s ∧
      h' = h.bankWrite tempAddr (h.denomOfTokenId s.tokenId) (h.refundValue chain s) ∧
      h'.createSte s.refundChain tempAddr s.refundAddr (h.denomOfTokenId s.tokenId)
        (h.refundValue chain s) 0 0 "#" "" "" = .error e := by
  rcases cancelSte_cases h chain id sender with
    ⟨_, e', _⟩ | ⟨s, hl, _, hnn, ⟨_, e'⟩ | ⟨_, e'⟩ | ⟨hr1, hr2, ⟨_, hc, e'⟩ | ⟨_, _, _, e'⟩⟩⟩
  all_goals
    rw [e'] at hok
    injection hok with hok hn
  · exact .inl hok.symm
  · cases hn
  · cases hn
  · injection hn with hn
    subst hok hn
    exact .inr ⟨s, (cancelLookup_some hl).1, (cancelLookup_some hl).2, hr1, hr2, hnn, rfl, hc⟩
  · cases hn

theorem cancelSte_fail_value {h h' : Hub} {chain sender : String} {id : Nat} {e : Err}
    (hok : h.cancelSte chain id sender = (h', some e)) (denom : String) :
    h'.value denom = h.value denom ∨ ∃ s, s ∈ (h.chain chain).pool ∧ s.id = id ∧
      s.refundChain ≠ "" ∧ s.refundChain ≠ "hub" ∧
      h'.value denom = h.value denom + hubCredit (h.denomOfTokenId s.tokenId) denom (h.refundValue chain s) := by
  rcases cancelSte_fail_cases hok with rfl | ⟨s, hsm, hid, hr1, hr2, _, rfl, _⟩
  · exact .inl rfl
  · exact .inr ⟨s, hsm, hid, hr1, hr2, bankWrite_value _ _ _ _ _⟩

/-! ### `MsgSendToExternal` -/

theorem sendToExternal_vrel {h h' : Hub} {sender chain rcp dn tx : String} {amount fee : Int} {id : Nat}
    (hok : h.sendToExternal sender chain rcp dn amount fee tx = .ok (h', id)) (denom : String) :
    VRel denom 0 h h' := by
  obtain ⟨_, _, _, _, _, _, _, _, _, hc⟩ := sendToExternal_ok hok
  exact createSte_vrel hc (by omega) (by omega) (by omega) (.inr (.inl rfl)) denom

/-! ### Deposits -/

theorem handleSendToHub_eq {h h' : Hub} {chain coin receiver tx : String} {amount : Int}
    (hok : h.handleSendToHub chain coin amount receiver tx = .ok h') :
    ∃ tok, h.tokenByExt chain coin = some tok ∧ 0 < fromExt tok.dec amount ∧
      h' = (h.bankWrite receiver tok.denom (fromExt tok.dec amount)).setStatus tx stDeposit "" := by
  obtain ⟨tok, hm, htok, _, _, hmint, rfl⟩ := handleSendToHub_ok hok
  obtain ⟨hpos, rfl⟩ := mintTo_eq hmint
  exact ⟨tok, htok, hpos, rfl⟩

theorem handleSendToHub_value_eq {h h' : Hub} {chain coin receiver tx : String} {amount : Int}
    (hok : h.handleSendToHub chain coin amount receiver tx = .ok h') {t : TokenInfo}
    (ht : h.tokenByExt chain coin = some t) (denom : String) :
    h'.value denom = h.value denom + hubCredit t.denom denom (fromExt t.dec amount) := by
  obtain ⟨tok, htok, _, rfl⟩ := handleSendToHub_eq hok
  rw [ht] at htok
  injection htok with htok
  subst htok
  exact bankWrite_value h receiver t.denom _ denom

theorem handleSendToHub_vrel {h h' : Hub} {chain coin receiver tx : String} {amount : Int}
    (hok : h.handleSendToHub chain coin amount receiver tx = .ok h') {t : TokenInfo}
    (ht : h.tokenByExt chain coin = some t) (denom : String) : VRel denom (extCredit t denom amount) h h' := by
  obtain ⟨tok, htok, hpos, rfl⟩ := handleSendToHub_eq hok
  rw [ht] at htok
  injection htok with htok
  subst htok
  have r := (bankWrite_vrel h receiver t.denom (fromExt t.dec amount) denom
    (fun hb => by have := hb receiver t.denom; omega)).trans
    (VRel.of_fields (h' := (h.bankWrite receiver t.denom (fromExt t.dec amount)).setStatus tx stDeposit "")
      rfl rfl rfl rfl)
  refine VRel.of_imp r.step r.tokens fun hi _ => r.mono ?_
  have := hubCredit_fromExt_le (hi.tok.dec_le t (tokenByExt_some ht).1) denom amount
  omega

theorem handle_transfer_vrel {h h' : Hub} {mf : Bool} {chain coin sender rchain receiver tx : String}
    {n ht : Nat} {amount fee : Int}
    (hok : h.handle mf chain (.transfer n coin amount fee sender rchain receiver ht tx) = .ok h')
    {t : TokenInfo} (htk : h.tokenByExt chain coin = some t) (denom : String) :
    VRel denom (extCredit t denom (ttcMintAmount mf amount fee)) h h' := by
  rcases (handle_transfer_ok hok).2 with ⟨_, _, e⟩ | ⟨_, v, stok, rtok, comm, id, hv, hs, hrt, _, _, _, _, hc⟩
  · exact handleSendToHub_vrel e htk denom
  · have hrc : chain = "" ∨ chain = "hub" ∨ ∃ t' ∈ v.tokens, t'.chain = chain ∧ t'.denom = rtok.denom := by
      obtain ⟨q1, q2, _⟩ := tokenByExt_some hs
      exact .inr (.inr ⟨stok, q1, q2, (tokenByDenom_some hrt).2.2.symm⟩)
    exact ((handleSendToHub_vrel hv htk denom).trans
      (createSte_vrel hc (by omega) (by omega) (by omega) hrc denom)).mono (by omega)

/-! ### `batchTxExecuted` -/

theorem VRel.mint {d denom acc : String} {B x : Int} {a b c : Hub} (hm : a.mintTo acc d x = .ok b)
    (r : VRel denom (hubCredit d denom (B - x)) b c) : VRel denom (hubCredit d denom B) a c :=
  ((mintTo_vrel hm denom).trans r).mono (by rw [← hubCredit_add]; exact hubCredit_mono d denom (by omega))

theorem VRel.credit {d denom : String} {B : Int} {a c : Hub} (hB : 0 ≤ B) (r : VRel denom 0 a c) :
    VRel denom (hubCredit d denom B) a c :=
  r.mono (hubCredit_nonneg d denom hB)

/-- The cancellation phase of `batchTxExecuted` only moves transfers, and leaves the executed batch
    where it is: it cancels batches with smaller nonces only. -/
theorem bexCancelOlder_veq {h v : Hub} {chain : String} {b : Batch} (hv : h.bexCancelOlder chain b = .ok v) :
    VEq h v ∧ (b.nonce < 2 ^ 64 → b ∈ (h.chain chain).batches → b ∈ (v.chain chain).batches) := by
  refine bexCancelOlder_rel (R := fun a a' => VEq a a' ∧
      (b.nonce < 2 ^ 64 → b ∈ (a.chain chain).batches → b ∈ (a'.chain chain).batches))
    (fun a => ⟨VEq.refl a, fun _ hm => hm⟩) (fun h1 h2 => ⟨h1.1.trans h2.1, fun hn hm => h2.2 hn (h1.2 hn hm)⟩)
    (fun o hlt hf => ⟨cancelBatch_veq hf, fun hn hm => ?_⟩) hv
  obtain ⟨_, b0, hfb, rfl⟩ := cancelBatch_ok hf
  rw [chain_setChain]
  refine mem_eraseByKey_of_ne batchKey hm fun hk => ?_
  have := Mhub2.batchKey_inj (b := o) (hk.trans (findBatch_some hfb).2) hn (by omega)
  omega

theorem bexMark_veq (h : Hub) (b : Batch) (tx : String) : VEq h (h.bexMark b tx) := by
  unfold Hub.bexMark
  refine foldl_rel VEq VEq.refl VEq.trans _ (fun a t _ => ?_) h
  exact VEq.of_cs rfl rfl rfl rfl

/- The bound on the value added depends on how much each piece of the distribution mints, which a
   relation closed under the writes (`MintClosed`) cannot express: the pieces are read directly
   here, each with its own bound. -/

theorem bexSend_vrel {h h' : Hub} {rcp dn tx : String} {amount : Int} (ha : 0 ≤ amount)
    (hok : h.bexSend rcp dn amount tx = .ok h') (denom : String) : VRel denom 0 h h' := by
  unfold Hub.bexSend panicM at hok
  cases hc : h.createSte "minter" tempAddr rcp dn amount 0 0 tx "" "" with
  | ok r =>
    rw [hc] at hok
    injection hok with hok
    subst hok
    exact createSte_vrel hc ha (Int.le_refl 0) (Int.le_refl 0) (.inl rfl) denom
  | error e => rw [hc] at hok; cases e <;> cases hok

theorem bexCommission_vrel {h h' : Hub} {tok : TokenInfo} {totalComm : Int}
    (hok : h.bexCommission tok totalComm = .ok h') (denom : String) :
    VRel denom (hubCredit tok.denom denom (if totalComm > 0 then totalComm else 0)) h h' := by
  unfold Hub.bexCommission panicM at hok
  by_cases hc : totalComm > 0
  · rw [if_pos hc] at hok ⊢
    obtain ⟨valset, _, hok⟩ := bind_ok hok
    obtain ⟨hm, hmint, hok⟩ := bind_ok hok
    refine VRel.mint hmint (VRel.credit (by omega) ?_)
    refine foldlM_rel (VRel denom 0) (VRel.refl denom) VRel.trans0 _ (fun a v a' _ e => ?_) hok
    obtain ⟨_, e⟩ := jp_ok e
    by_cases hs : commissionShare totalComm v.power (sumNats (valset.map (·.power))) ≤ 0
    · rw [if_pos hs] at e; injection e with e; subst e; exact VRel.refl denom _
    · rw [if_neg hs] at e; exact bexSend_vrel (by omega) e denom
  · rw [if_neg hc] at hok ⊢
    injection hok with hok
    subst hok
    exact VRel.credit (Int.le_refl 0) (VRel.refl denom _)

theorem bexRefundStep_vrel {hc h h' : Hub} {chain : String} {tok : TokenInfo} {feeLeft avg good : Int} {t : Ste}
    (hok : hc.bexRefundStep chain tok feeLeft avg good h t = .ok h') (denom : String) : VRel denom 0 h h' := by
  unfold Hub.bexRefundStep panicM at hok
  dsimp only at hok
  by_cases h1 : hc.fromExternal chain tok.extId t.fee < avg
  · rw [if_pos h1] at hok; injection hok with hok; subst hok; exact VRel.refl denom _
  rw [if_neg h1] at hok
  obtain ⟨_, hok⟩ := jp_ok hok
  by_cases h2 : (t.refundChain != "minter") = true
  · rw [if_pos h2] at hok; injection hok with hok; subst hok; exact VRel.refl denom _
  rw [if_neg h2] at hok
  by_cases h3 : refundShare feeLeft (hc.fromExternal chain tok.extId t.fee) good ≤ 0
  · rw [if_pos h3] at hok; injection hok with hok; subst hok; exact VRel.refl denom _
  rw [if_neg h3] at hok
  obtain ⟨a, ha, hok⟩ := bind_ok hok
  refine (bexSend_vrel (by omega) ha denom).trans0 ?_
  cases hf : alGet a.feeRec t.txHash with
  | none => rw [hf] at hok; cases hok
  | some p => rw [hf] at hok; injection hok with hok; subst hok; exact VRel.of_fields rfl rfl rfl rfl

theorem bexPay_vrel {h h' : Hub} {chain : String} {tok : TokenInfo} {b : Batch} {totalFee fee : Int}
    {payer : String} (hok : h.bexPay chain tok b totalFee fee payer = .ok h') (h0 : 0 ≤ totalFee)
    (hle : fee ≤ totalFee) (denom : String) : VRel denom (hubCredit tok.denom denom totalFee) h h' := by
  unfold Hub.bexPay panicM at hok
  by_cases h1 : fee ≤ 0
  · rw [if_pos h1] at hok; injection hok with hok; subst hok; exact VRel.credit h0 (VRel.refl denom _)
  rw [if_neg h1] at hok
  obtain ⟨a, ha, hok⟩ := bind_ok hok
  obtain ⟨a2, ha2, hok⟩ := bind_ok hok
  dsimp only at hok
  refine VRel.mint ha (((bexSend_vrel (by omega) ha2 denom).trans
    (?_ : VRel denom (hubCredit tok.denom denom (totalFee - fee)) a2 h')).mono (by omega))
  by_cases h2 : totalFee - fee ≤ 0
  · rw [if_pos h2] at hok; injection hok with hok; subst hok; exact VRel.credit (by omega) (VRel.refl denom _)
  rw [if_neg h2] at hok
  obtain ⟨a3, ha3, hok⟩ := bind_ok hok
  obtain ⟨_, hok⟩ := jp_ok hok
  refine VRel.mint ha3 (VRel.credit (by omega) ?_)
  exact foldlM_rel (VRel denom 0) (VRel.refl denom) VRel.trans0 _ (fun _ _ _ _ e => bexRefundStep_vrel e denom) hok

theorem bexFees_vrel {h h' : Hub} {chain : String} {tok : TokenInfo} {b : Batch} {totalFee feePaid : Int}
    {payer : String} (hok : h.bexFees chain tok b totalFee feePaid payer = .ok h') (denom : String) :
    VRel denom (hubCredit tok.denom denom (if totalFee > 0 then totalFee else 0)) h h' := by
  unfold Hub.bexFees panicM at hok
  by_cases h1 : totalFee ≤ 0
  · rw [if_pos h1] at hok; injection hok with hok; subst hok
    exact VRel.credit (by split <;> omega) (VRel.refl denom _)
  rw [if_neg h1] at hok
  rw [if_pos (by omega : totalFee > 0)]
  obtain ⟨base, _, hok⟩ := bind_ok hok
  cases base with
  | none => injection hok with hok; subst hok; exact VRel.credit (by omega) (VRel.refl denom _)
  | some bc =>
    dsimp only at hok
    cases hp : alGet h.prices bc with
    | none => rw [hp] at hok; cases hok
    | some pBase =>
      rw [hp] at hok
      dsimp only at hok
      cases hq : alGet h.prices tok.denom with
      | none => rw [hq] at hok; cases hok
      | some pTok =>
        rw [hq] at hok
        obtain ⟨_, hok⟩ := jp_ok hok
        obtain ⟨_, hok⟩ := jp_ok hok
        refine bexPay_vrel hok (by omega) ?_ denom
        unfold reimbursement
        split <;> omega

/-- An observed batch execution writes off at least what the batch paid out externally. -/
theorem batchExecuted_vrel {h h' : Hub} {chain tok tx payer : String} {n : Nat} {fp : Int}
    (hok : h.batchExecuted chain tok n tx fp payer = .ok h') {b : Batch}
    (hfb : h.findBatch chain tok n = some b) (denom : String) :
    ∃ t, h.tokenByExt chain b.extToken = some t ∧
      VRel denom (-(extCredit t denom (sumInts (b.txs.map (·.amount))))) h h' := by
  have hstep0 := batchExecuted_step hok
  have hbm0 := (findBatch_some hfb).1
  rcases batchExecuted_ok hok with ⟨e, _⟩ | ⟨b1, v, hfb1, hv, hd⟩
  · rw [hfb] at e; cases e
  rw [hfb] at hfb1
  injection hfb1 with hfb1
  subst hfb1
  obtain ⟨rv, hbv⟩ := bexCancelOlder_veq hv
  generalize hv2 : v.setChain chain _ = v2 at hd
  have e2 : v2.tokens = h.tokens := by subst hv2; exact rv.tokens
  unfold Hub.bexDistribute panicM at hd
  rw [tokenByExt_of_tokens e2] at hd
  cases ht : h.tokenByExt chain b.extToken with
  | none => rw [ht] at hd; cases hd
  | some t =>
    rw [ht] at hd
    refine ⟨t, rfl, ?_⟩
    obtain ⟨v4, hv4, hd⟩ := bind_ok hd
    have re := eraseBatch_vrel v chain b t denom (by rw [tokenByExt_of_tokens rv.tokens]; exact ht)
    rw [hv2] at re
    have r3 := bexMark_veq v2 b tx
    have m4 := bexCommission_vrel hv4 denom
    have m5 := bexFees_vrel hd denom
    have hfx : ∀ X, (v2.bexMark b tx).fromExternal chain t.extId X = fromExt t.dec X := by
      intro X
      unfold Hub.fromExternal
      rw [(tokenByExt_some ht).2.2, tokenByExt_of_tokens (r3.tokens.trans e2), ht]
    rw [hfx] at m4 m5
    refine VRel.of_imp hstep0 (m5.tokens.trans (m4.tokens.trans (r3.tokens.trans e2))) fun hi hb => ?_
    have hn : b.nonce < 2 ^ 64 :=
      Nat.lt_of_le_of_lt ((Hub.ledgerInv_iff.mp hi.led chain).brange b hbm0) ((hb.mono hstep0) chain).2
    have re' := re fun _ => hbv hn hbm0
    refine (((((rv.toVRel denom).trans re').trans (r3.toVRel denom)).trans m4).trans m5).mono ?_
    -- what is re-minted is covered by the commissions and fees written off with the batch
    obtain ⟨_, hSf, hSc⟩ := hi.ent.batch_nonneg hbm0
    have hdec := hi.tok.dec_le t (tokenByExt_some ht).1
    have hpos : ∀ S : Int, 0 ≤ S →
        (if fromExt t.dec S > 0 then fromExt t.dec S else 0) * unitOf 18 ≤ S * unitOf t.dec := by
      intro S hS
      split
      · exact fromExt_value_le hdec S
      · have := mul_unit_nonneg hS t.dec; omega
    have hcle := hpos _ hSc
    have hfle := hpos _ hSf
    unfold hubCredit extCredit extValue
    by_cases hd : t.denom = denom
    · simp only [hd, if_true]
      rw [sumInts_total, Int.add_mul, Int.add_mul]
      omega
    · simp only [hd, if_false]
      omega

/-! ### Cancels with any outcome, expiry -/

theorem tokenByDenom_isSome {h : Hub} {chain dn : String} {t : TokenInfo} (ht : t ∈ h.tokens)
    (hc : t.chain = chain) (hd : t.denom = dn) : (h.tokenByDenom chain dn).isSome = true := by
  unfold Hub.tokenByDenom
  rw [List.find?_isSome]
  exact ⟨t, ht, by simp [hc, hd]⟩

theorem createSte_ok_of {h : Hub} {chain sender rcp dn tx rc ra : String} {a f cm : Int}
    (htok : (h.tokenByDenom chain dn).isSome = true) (hpos : 0 < a + f + cm)
    (hbal : a + f + cm ≤ h.balance sender dn) :
    ∃ r, h.createSte chain sender rcp dn a f cm tx rc ra = .ok r := by
  unfold Hub.createSte
  cases hq : h.tokenByDenom chain dn with
  | none => rw [hq] at htok; cases htok
  | some tok =>
    have h1 : ¬ (a + f + cm ≤ 0) := by omega
    have h2 : ¬ (h.balance sender dn < a + f + cm) := by omega
    simp [bind, Except.bind, Hub.burnFrom, h1, h2, pure, Except.pure]

/-- Under the standing invariants a cancel never increases value, whatever its outcome: the
    partial failure of `cancelSte_fail_cases` needs a missing refund token or a negative balance. -/
theorem cancelSte_any_vrel {h h' : Hub} {chain sender : String} {id : Nat} {oe : Option Err}
    (hok : h.cancelSte chain id sender = (h', oe)) (denom : String) : VRel denom 0 h h' := by
  cases oe with
  | none => exact cancelSte_none_vrel hok denom
  | some e =>
    rcases cancelSte_fail_cases hok with rfl | ⟨s, hsm, _, hr1, hr2, hnn, rfl, he⟩
    · exact VRel.refl denom _
    · have r := bankWrite_vrel h tempAddr (h.denomOfTokenId s.tokenId) (h.refundValue chain s) denom
        (fun hb => by have := hb tempAddr (h.denomOfTokenId s.tokenId); omega)
      refine VRel.of_imp r.step r.tokens fun hi hb => ?_
      obtain ⟨⟨t, ht, htc, hte, hti, hrf⟩, _⟩ := hi.ent.good chain s (ChainSt.mem_entries.mpr (.inl hsm))
      have hdn : h.denomOfTokenId s.tokenId = t.denom := by
        unfold Hub.denomOfTokenId
        rw [← hti, tokenById_mem hi.tok ht]
      by_cases h0 : h.refundValue chain s = 0
      · exact r.mono (by rw [h0, hubCredit_zero]; exact Int.le_refl 0)
      · exfalso
        rcases hrf with hrf | hrf | ⟨t', ht', hc', hd'⟩
        · exact hr1 hrf
        · exact hr2 hrf
        · have hsome := tokenByDenom_isSome (h := h.bankWrite tempAddr (h.denomOfTokenId s.tokenId)
              (h.refundValue chain s)) (dn := h.denomOfTokenId s.tokenId) (by rw [r.tokens]; exact ht') hc'
              (by rw [hdn]; exact hd')
          have hb0 := hi.ent.bal tempAddr (h.denomOfTokenId s.tokenId)
          obtain ⟨x, hx⟩ := createSte_ok_of (sender := tempAddr) (rcp := s.refundAddr) (tx := "#") (rc := "")
            (ra := "") (a := h.refundValue chain s) (f := 0) (cm := 0) hsome (by omega)
            (by rw [bankWrite_balance, if_pos rfl]; omega)
          rw [hx] at he
          cases he

theorem refundExpired_vrel {h h' : Hub} {chain : String} (hok : h.refundExpired chain = .ok h') (denom : String) :
    VRel denom 0 h h' :=
  refundExpired_rel (VRel.refl denom) VRel.trans0 (fun _ _ _ _ => cancelSte_any_vrel rfl denom) hok

/-! ### Event handler, tally, end block -/

/-- Upper bound of the value an observed event may add to `denom`: the collateral locked externally
    by a deposit (`sendToHub`) or a chain-to-chain transfer; nothing for the other events. -/
def Hub.depositCredit (h : Hub) (mf : Bool) (chain denom : String) : Event → Int
  | .sendToHub _ coin amount _ _ _ _ =>
    match h.tokenByExt chain coin with
    | some t => extCredit t denom amount
    | none => 0
  | .transfer _ coin amount fee _ _ _ _ _ =>
    match h.tokenByExt chain coin with
    | some t => extCredit t denom (ttcMintAmount mf amount fee)
    | none => 0
  | _ => 0

theorem depositCredit_of_tokens {h h' : Hub} (e : h'.tokens = h.tokens) (mf : Bool) (chain denom : String)
    (ev : Event) : h'.depositCredit mf chain denom ev = h.depositCredit mf chain denom ev := by
  cases ev <;> simp [Hub.depositCredit, tokenByExt_of_tokens e]

theorem handle_vrel {h h' : Hub} {mf : Bool} {chain : String} {ev : Event}
    (hok : h.handle mf chain ev = .ok h') (denom : String) :
    VRel denom (h.depositCredit mf chain denom ev) h h' := by
  cases ev with
  | sendToHub n coin amount sender receiver height txHash =>
    obtain ⟨t, ht, _⟩ := handleSendToHub_eq hok
    have := handleSendToHub_vrel hok ht denom
    simpa [Hub.depositCredit, ht] using this
  | transfer n coin amount fee sender rchain receiver height txHash =>
    have hex : ∃ t, h.tokenByExt chain coin = some t := by
      rcases (handle_transfer_ok hok).2 with ⟨_, _, e⟩ | ⟨_, v, _, _, _, _, e, _⟩
      · obtain ⟨t, ht, _⟩ := handleSendToHub_eq e; exact ⟨t, ht⟩
      · obtain ⟨t, ht, _⟩ := handleSendToHub_eq e; exact ⟨t, ht⟩
    obtain ⟨t, ht⟩ := hex
    have := handle_transfer_vrel hok ht denom
    simpa [Hub.depositCredit, ht] using this
  | batchExecuted coin n bn height txHash feePaid feePayer =>
    have hok : h.batchExecuted chain coin bn txHash feePaid feePayer = .ok h' := hok
    show VRel denom 0 h h'
    cases hfb : h.findBatch chain coin bn with
    | none => rw [batchExecuted_none hok hfb]; exact VRel.refl denom _
    | some b =>
      obtain ⟨t, _, r⟩ := batchExecuted_vrel hok hfb denom
      refine VRel.of_imp r.step r.tokens fun hi _ => r.mono ?_
      have := mul_unit_nonneg (hi.ent.batch_nonneg (findBatch_some hfb).1).1 t.dec
      unfold extCredit extValue
      split <;> omega
  | contractCall n scope inv height =>
    injection hok with hok
    subst hok
    exact VRel.refl denom _
  | signerSet n sn height members txHash =>
    injection hok with hok
    subst hok
    show VRel denom 0 h _
    apply VEq.toVRel
    exact VEq.setChain rfl rfl rfl rfl

/-- One vote record: nothing happens to value unless the record is accepted and its handler
    succeeds (a failing handler leaves only the vote bookkeeping). -/
theorem tryRecord_vrel {h h' : Hub} {mf : Bool} {chain : String} {r : VoteRec}
    (hok : h.tryRecord mf chain r = .ok h') (denom : String) :
    VRel denom 0 h h' ∨ VRel denom (h.depositCredit mf chain denom r.ev) h h' := by
  have h1 : VEq h (h.setChain chain ((h.chain chain).markObserved r h.height)) := VEq.setChain rfl rfl rfl rfl
  rcases tryRecord_cases h mf chain r with ⟨_, _, e⟩ | ⟨_, e⟩ | ⟨_, ⟨a, ha, e⟩ | ⟨_, e⟩⟩
  · rw [e] at hok; cases hok
  · rw [e] at hok; injection hok with hok; subst hok; exact .inl (VRel.refl denom _)
  · rw [e] at hok; injection hok with hok; subst hok
    have r2 := handle_vrel ha denom
    rw [depositCredit_of_tokens h1.tokens] at r2
    exact .inr (((h1.toVRel denom).trans r2).mono (by omega))
  · rw [e] at hok; injection hok with hok; subst hok; exact .inl (h1.toVRel denom)

theorem tally_fold {denom : String} {mf : Bool} {chain : String} (L : List VoteRec) {h h' : Hub}
    (hok : L.foldlM (fun (h : Hub) r => h.tryRecord mf chain r) h = .ok h') :
    ∃ applied : List VoteRec, applied.Sublist L ∧
      VRel denom (sumInts (applied.map fun r => h.depositCredit mf chain denom r.ev)) h h' := by
  induction L generalizing h with
  | nil =>
    injection hok with hok
    subst hok
    exact ⟨[], List.Sublist.refl _, VRel.refl denom _⟩
  | cons r rs ih =>
    obtain ⟨h1, hs1, hs2⟩ := foldlM_cons_ok hok
    obtain ⟨ap, hsub, rr⟩ := ih hs2
    have e : ∀ r1 : h1.tokens = h.tokens, (ap.map fun r => h1.depositCredit mf chain denom r.ev) =
        (ap.map fun r => h.depositCredit mf chain denom r.ev) := fun r1 =>
      List.map_congr_left (fun x _ => depositCredit_of_tokens r1 mf chain denom x.ev)
    rcases tryRecord_vrel hs1 denom with r1 | r1
    · rw [e r1.tokens] at rr
      exact ⟨ap, hsub.cons r, (r1.trans rr).mono (by omega)⟩
    · rw [e r1.tokens] at rr
      refine ⟨r :: ap, hsub.cons_cons r, ?_⟩
      rw [List.map_cons, sumInts_cons]
      exact r1.trans rr

/-- A tally adds at most the collateral locked by the events it applied. -/
theorem tally_vrel {h h' : Hub} {mf : Bool} {chain : String} (hok : h.tally mf chain = .ok h') (denom : String) :
    ∃ applied : List VoteRec, applied.Sublist (h.chain chain).records ∧
      VRel denom (sumInts (applied.map fun r => h.depositCredit mf chain denom r.ev)) h h' :=
  tally_fold _ hok

theorem endBlock_fold {denom : String} {mf : Bool} (L : List String) {h h' : Hub}
    (hok : L.foldlM (fun (h : Hub) chain => do
      let h ← h.tally mf chain
      h.refundExpired chain) h = .ok h') :
    ∃ applied : List (String × VoteRec), (∀ p ∈ applied, p.1 ∈ L) ∧
      VRel denom (sumInts (applied.map fun p => h.depositCredit mf p.1 denom p.2.ev)) h h' := by
  induction L generalizing h with
  | nil =>
    injection hok with hok
    subst hok
    exact ⟨[], fun _ hp => (by cases hp), VRel.refl denom _⟩
  | cons c cs ih =>
    obtain ⟨h1, hs1, hs2⟩ := foldlM_cons_ok hok
    obtain ⟨v, hv, hs1⟩ := bind_ok hs1
    obtain ⟨ap1, _, r1⟩ := tally_vrel hv denom
    obtain ⟨ap2, hsub2, r3⟩ := ih hs2
    have r12 := r1.trans (refundExpired_vrel hs1 denom)
    refine ⟨ap1.map (fun r => (c, r)) ++ ap2, fun p hp => ?_, ?_⟩
    · rcases List.mem_append.mp hp with hp | hp
      · obtain ⟨r, _, rfl⟩ := List.mem_map.mp hp; exact List.mem_cons_self
      · exact List.mem_cons_of_mem _ (hsub2 p hp)
    · have e : (ap2.map fun p => h1.depositCredit mf p.1 denom p.2.ev) =
          (ap2.map fun p => h.depositCredit mf p.1 denom p.2.ev) :=
        List.map_congr_left (fun x _ => depositCredit_of_tokens r12.tokens mf x.1 denom x.2.ev)
      rw [e] at r3
      rw [List.map_append, sumInts_append, List.map_map]
      exact (r12.trans r3).mono (by simp [Function.comp_def])

theorem endBlock_vrel {h h' : Hub} {mf : Bool} (hok : h.endBlock mf = .ok h') (denom : String) :
    ∃ applied : List (String × VoteRec), (∀ p ∈ applied, p.1 ∈ h.chains) ∧
      VRel denom (sumInts (applied.map fun p => h.depositCredit mf p.1 denom p.2.ev)) h h' :=
  endBlock_fold _ hok

/-! ### The operations of a history -/

theorem apply_vrel (h : Hub) (op : Op) (hr : op ≠ .reset) (ht : ∀ t, op ≠ .token t)
    (hf : ∀ a d x, op ≠ .fund a d x) (he : op ≠ .endBlock) (denom : String) :
    VRel denom 0 h (apply h op).1 := by
  rcases apply_cases h op with e | e | e
  · rw [e]; exact VRel.refl denom _
  · exact absurd e hr
  · generalize (apply h op).1 = h' at e
    cases e with
    | token t => exact absurd rfl (ht t)
    | fund _ => exact absurd rfl (hf _ _ _)
    | endBlock _ => exact absurd rfl he
    | chains | param | gravityId | price | holder | staking | block => exact VRel.of_fields rfl rfl rfl rfl
    | beginBlock e => exact (beginBlock_veq e).toVRel denom
    | send e => exact sendToExternal_vrel e denom
    | cancel e => exact cancelMsg_vrel e denom
    | reqBatch e => exact (requestBatch_veq e).toVRel denom
    | vote _ e => exact (VEq.of_side (submitEvent_side e)).toVRel denom
    | confirm e => exact (VEq.of_side (confirm_side e)).toVRel denom
    | delegate e => exact (VEq.of_side (setDelegateKeys_side e)).toVRel denom

theorem apply_fund_ok {h h' : Hub} {acc d : String} {x : Int} (hm : h.mintTo acc d x = .ok h') (denom : String) :
    (apply h (.fund acc d x)).1 = h' ∧ VRel denom (hubCredit d denom x) h h' ∧
    h'.value denom = h.value denom + hubCredit d denom x := by
  simp only [apply]
  rw [hm]
  exact ⟨rfl, mintTo_vrel hm denom, mintTo_value hm denom⟩

theorem apply_fund_err {h : Hub} {acc d : String} {x : Int} {e : Err} (hm : h.mintTo acc d x = .error e) :
    (apply h (.fund acc d x)).1 = h := by
  simp only [apply]
  rw [hm]
  cases e <;> rfl

/-- `mintsFee` is the extracted fact `Generated.ttcMintsAmountPlusFee`: the handler mints the locked
    amount, not amount + fee. -/
theorem mintsFee_false : mintsFee = false := by decide

theorem apply_endBlock_vrel (h : Hub) (denom : String) :
    ∃ applied : List (String × VoteRec), (∀ p ∈ applied, p.1 ∈ h.chains) ∧
      VRel denom (sumInts (applied.map fun p => h.depositCredit false p.1 denom p.2.ev)) h (apply h .endBlock).1 := by
  simp only [apply]
  rw [mintsFee_false]
  cases e1 : h.endBlock false with
  | error e =>
    have : (outM (Except.error e) h).1 = h := by cases e <;> rfl
    rw [this]
    exact ⟨[], fun _ hp => (by cases hp), VRel.refl denom _⟩
  | ok h' =>
    exact endBlock_vrel e1 denom

theorem apply_vrel_any (h : Hub) (op : Op) (hr : op ≠ .reset) (ht : ∀ t, op ≠ .token t) (denom : String) :
    ∃ δ, VRel denom δ h (apply h op).1 := by
  by_cases he : op = .endBlock
  · subst he
    obtain ⟨ap, _, r⟩ := apply_endBlock_vrel h denom
    exact ⟨_, r⟩
  · by_cases hf : ∃ a d x, op = .fund a d x
    · obtain ⟨a, d, x, rfl⟩ := hf
      cases hm : h.mintTo a d x with
      | ok h' =>
        obtain ⟨e, r, _⟩ := apply_fund_ok hm denom
        rw [e]; exact ⟨_, r⟩
      | error e =>
        rw [apply_fund_err hm]; exact ⟨0, VRel.refl denom _⟩
    · exact ⟨0, apply_vrel h op hr ht (fun a d x e => hf ⟨a, d, x, e⟩) he denom⟩

theorem initialHub_vinv : initialHub.VInv := by
  refine ⟨⟨?_, ?_, ?_, ?_⟩, List.nodup_nil, initialHub_inv, ⟨?_, ?_, ?_⟩⟩
  · intro t ht; cases ht
  · intro t ht; cases ht
  · intro t ht; cases ht
  · intro t ht; cases ht
  · intro c s hs; rw [initialHub_chain] at hs; cases hs
  · intro a d; exact Int.le_refl 0
  · intro c b hb; rw [initialHub_chain] at hb; cases hb

/-- The hypotheses a history's final state is asked to satisfy: counters below `2^64` and a
    well-formed, duplicate-free token table.  They hold of every earlier state since the last
    `reset` too. -/
def Hub.Fit (h : Hub) : Prop := h.Bounded ∧ h.TokensOK ∧ h.tokens.Nodup

theorem VRel.fit_back {denom : String} {δ : Int} {h h' : Hub} (r : VRel denom δ h h') (hf : h'.Fit) : h.Fit :=
  ⟨hf.1.mono r.step, tokensOK_of_eq r.tokens.symm hf.2.1, by rw [← r.tokens]; exact hf.2.2⟩

theorem token_fit_back {h : Hub} {t : TokenInfo} (hf : (apply h (.token t)).1.Fit) : h.Fit := by
  obtain ⟨hb, htk, hnd⟩ := hf
  have hsl : h.tokens.Sublist (h.tokens ++ [t]) := List.sublist_append_left _ _
  exact ⟨fun c => hb c,
    ⟨fun x hx => htk.dec_le x (hsl.subset hx), fun x hx y hy => htk.ext_unique x (hsl.subset hx) y (hsl.subset hy),
     fun x hx y hy => htk.denom_unique x (hsl.subset hx) y (hsl.subset hy),
     fun x hx y hy => htk.id_unique x (hsl.subset hx) y (hsl.subset hy)⟩, hnd.sublist hsl⟩

theorem apply_preserves_vinv (h : Hub) (op : Op) (hq : h.Fit → h.VInv) (hf : (apply h op).1.Fit) :
    (apply h op).1.VInv := by
  by_cases hr : op = .reset
  · subst hr; exact initialHub_vinv
  · by_cases ht : ∃ t, op = .token t
    · obtain ⟨t, rfl⟩ := ht
      have hi := hq (token_fit_back hf)
      refine ⟨hf.2.1, hf.2.2, fun c => hi.led c,
        ⟨fun c s hs => ?_, fun a d => hi.ent.bal a d, fun c b hbm => hi.ent.coh c b hbm⟩⟩
      obtain ⟨⟨t0, ht0, g1, g2, g3, g4⟩, g5⟩ := hi.ent.good c s hs
      refine ⟨⟨t0, List.mem_append_left _ ht0, g1, g2, g3, ?_⟩, g5⟩
      rcases g4 with g4 | g4 | ⟨t', ht', g6⟩
      · exact .inl g4
      · exact .inr (.inl g4)
      · exact .inr (.inr ⟨t', List.mem_append_left _ ht', g6⟩)
    · obtain ⟨δ, r⟩ := apply_vrel_any h op hr (fun t e => ht ⟨t, e⟩) ""
      exact r.inv (hq (r.fit_back hf)) hf.1

theorem vinv_reachable (ops : List Op) :
    (runOps ops).Bounded → (runOps ops).TokensOK → (runOps ops).tokens.Nodup → (runOps ops).VInv := by
  have hgen : ∀ (ops : List Op) (h : Hub), (h.Fit → h.VInv) →
      (ops.foldl (fun h op => (apply h op).1) h).Fit → (ops.foldl (fun h op => (apply h op).1) h).VInv := by
    intro ops
    induction ops with
    | nil => intro h hq; exact hq
    | cons op rest ih => intro h hq; exact ih _ (apply_preserves_vinv h op hq)
  exact fun hb htk hnd => hgen ops initialHub (fun _ => initialHub_vinv) ⟨hb, htk, hnd⟩

theorem apply_list_vrel (ops : List Op)
    (hall : ∀ op ∈ ops, op ≠ .reset ∧ (∀ t, op ≠ .token t) ∧ (∀ a d x, op ≠ .fund a d x) ∧ op ≠ .endBlock)
    (denom : String) (h : Hub) : VRel denom 0 h (ops.foldl (fun h op => (apply h op).1) h) :=
  foldl_rel (VRel denom 0) (VRel.refl denom) VRel.trans0 ops
    (fun a op hop => apply_vrel a op (hall op hop).1 (hall op hop).2.1 (hall op hop).2.2.1 (hall op hop).2.2.2 denom) h

/-! ### Adding a token; histories without deposits -/

/-- Registering a token that keeps the table well formed does not change any value: no in-flight
    transfer can already carry its external id. -/
theorem apply_token_value {h : Hub} {t : TokenInfo} (hi : h.VInv) (htk : (apply h (.token t)).1.TokensOK)
    (hnd : (apply h (.token t)).1.tokens.Nodup) (denom : String) :
    (apply h (.token t)).1.value denom = h.value denom := by
  have hnot : t ∉ h.tokens := fun hm =>
    (List.nodup_append.mp hnd).2.2 t hm t (List.mem_singleton.mpr rfl) rfl
  have hzero : h.inflightOf t = 0 := by
    rw [inflightOf_eq, tokSum_of_none, Int.zero_mul]
    intro s hs he
    obtain ⟨⟨t0, ht0, g1, g2, _⟩, _⟩ := hi.ent.good t.chain s hs
    have := htk.ext_unique t0 (List.mem_append_left _ ht0) t (List.mem_append_right _ (List.mem_singleton.mpr rfl))
      g1 (g2.trans he)
    exact hnot (this ▸ ht0)
  -- the new state has the stores of `h`, so the in-flight value of each token is the same
  show h.supplyOf denom * unitOf 18 +
    sumInts (((h.tokens ++ [t]).filter fun x => x.denom == denom).map h.inflightOf) = _
  rw [List.filter_append, List.map_append, sumInts_append]
  have : sumInts (([t].filter fun x => x.denom == denom).map h.inflightOf) = 0 := by
    by_cases hd : (t.denom == denom) = true
    · simp [hd, sumInts_cons, hzero]
    · simp [hd]
  rw [this, Int.add_zero]
  rfl

/-- What the test-harness `fund` operations of a history minted of `denom` since the last `reset`,
    in common units. -/
def fundsOf (denom : String) : List Op → Int → Int
  | [], c => c
  | .reset :: r, _ => fundsOf denom r 0
  | .fund _ d x :: r, c => fundsOf denom r (c + if 0 < x then hubCredit d denom x else 0)
  | _ :: r, c => fundsOf denom r c

theorem initialHub_value (denom : String) : initialHub.value denom = 0 := by
  simp [Hub.value, Hub.supplyOf, Hub.inflight, initialHub, alGet]

theorem apply_funds (denom : String) (h : Hub) (op : Op) (c : Int) (hop : op ≠ .endBlock) (hc : 0 ≤ c)
    (hq : h.Fit → h.VInv ∧ h.value denom ≤ c) (rest : List Op) :
    ∃ c', 0 ≤ c' ∧ fundsOf denom (op :: rest) c = fundsOf denom rest c' ∧
      ((apply h op).1.Fit → (apply h op).1.value denom ≤ c') := by
  by_cases hr : op = .reset
  · subst hr
    refine ⟨0, Int.le_refl 0, rfl, fun _ => ?_⟩
    rw [show (apply h .reset).1 = initialHub from rfl, initialHub_value]
    exact Int.le_refl 0
  by_cases ht : ∃ t, op = .token t
  · obtain ⟨t, rfl⟩ := ht
    refine ⟨c, hc, rfl, fun hf => ?_⟩
    obtain ⟨hi, hv⟩ := hq (token_fit_back hf)
    rw [apply_token_value hi hf.2.1 hf.2.2]
    exact hv
  by_cases hfd : ∃ a d x, op = .fund a d x
  · obtain ⟨a, d, x, rfl⟩ := hfd
    have hnn : 0 ≤ (if 0 < x then hubCredit d denom x else 0) := by
      split
      · exact hubCredit_nonneg d denom (by omega)
      · exact Int.le_refl 0
    refine ⟨c + if 0 < x then hubCredit d denom x else 0, by omega, rfl, fun hf => ?_⟩
    cases hm : h.mintTo a d x with
    | ok h' =>
      obtain ⟨e, r, _⟩ := apply_fund_ok hm denom
      rw [e] at hf ⊢
      obtain ⟨hi, hv⟩ := hq (r.fit_back hf)
      have := r.le hi hf.1
      rw [if_pos (mintTo_eq hm).1]
      omega
    | error e =>
      rw [apply_fund_err hm] at hf ⊢
      have := (hq hf).2
      omega
  · have hf' : ∀ a d x, op ≠ .fund a d x := fun a d x e => hfd ⟨a, d, x, e⟩
    have r := apply_vrel h op hr (fun t e => ht ⟨t, e⟩) hf' hop denom
    refine ⟨c, hc, ?_, fun hf => ?_⟩
    · cases op <;> first | rfl | exact absurd rfl hr | exact absurd rfl (hf' _ _ _)
    · obtain ⟨hi, hv⟩ := hq (r.fit_back hf)
      have := r.le hi hf.1
      omega

/-- Without deposits nothing is ever created: in a history without `endBlock` (so without observed
    external events) the value of a denom never exceeds what `fund` minted. -/
theorem value_le_funds (denom : String) (ops : List Op) (hne : ∀ op ∈ ops, op ≠ .endBlock) :
    (runOps ops).Bounded → (runOps ops).TokensOK → (runOps ops).tokens.Nodup →
    (runOps ops).value denom ≤ fundsOf denom ops 0 := by
  have hgen : ∀ (ops : List Op) (h : Hub) (c : Int), (∀ op ∈ ops, op ≠ .endBlock) → 0 ≤ c →
      (h.Fit → h.VInv ∧ h.value denom ≤ c) → (ops.foldl (fun h op => (apply h op).1) h).Fit →
      (ops.foldl (fun h op => (apply h op).1) h).VInv ∧
      (ops.foldl (fun h op => (apply h op).1) h).value denom ≤ fundsOf denom ops c := by
    intro ops
    induction ops with
    | nil => intro h c _ _ hq; exact hq
    | cons op rest ih =>
      intro h c hne hc hq
      obtain ⟨c', hc', e, hv⟩ := apply_funds denom h op c (hne op List.mem_cons_self) hc hq rest
      rw [List.foldl_cons, e]
      exact ih _ c' (fun o ho => hne o (List.mem_cons_of_mem _ ho)) hc'
        (fun hf => ⟨apply_preserves_vinv h op (fun g => (hq g).1) hf, hv hf⟩)
  exact fun hb htk hnd => (hgen ops initialHub 0 hne (Int.le_refl 0)
    (fun _ => ⟨initialHub_vinv, by rw [initialHub_value]; exact Int.le_refl 0⟩) ⟨hb, htk, hnd⟩).2

end Mhub2
