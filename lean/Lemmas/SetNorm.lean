/-
  The hub ↔ contract link of C08 (Props/C08Hub.lean): selections of list members by a Boolean mask
  (`sel`), how much the floors `⌊pᵢ·c / T⌋` of a selection lose against the exact proportion (less than
  one unit each), and the valid power of a signature vector: of the one a mask of signing members
  produces (`maskSlots`), and of an arbitrary one through the mask of its valid slots (`validMask`).
-/
import Lemmas.Contract
namespace Mhub2.SetNorm
open Mhub2 Mhub2.C08


def sel {α : Type} : List Bool → List α → List α
  | b :: bs, x :: xs => if b then x :: sel bs xs else sel bs xs
  | _, _ => []

theorem sel_nil_left {α : Type} (xs : List α) : sel [] xs = [] := by
  unfold sel; rfl

theorem sel_nil_right {α : Type} (m : List Bool) : sel m ([] : List α) = [] := by
  cases m <;> rfl

theorem sel_cons_cons {α : Type} (b : Bool) (bs : List Bool) (x : α) (xs : List α) :
    sel (b :: bs) (x :: xs) = if b then x :: sel bs xs else sel bs xs := rfl

theorem sel_true_cons {α : Type} (bs : List Bool) (x : α) (xs : List α) :
    sel (true :: bs) (x :: xs) = x :: sel bs xs := rfl

theorem sel_false_cons {α : Type} (bs : List Bool) (x : α) (xs : List α) :
    sel (false :: bs) (x :: xs) = sel bs xs := rfl

theorem sel_map {α β : Type} (f : α → β) (m : List Bool) (xs : List α) :
    sel m (xs.map f) = (sel m xs).map f := by
  induction m generalizing xs with
  | nil => rw [sel_nil_left, sel_nil_left]; rfl
  | cons b bs ih =>
    cases xs with
    | nil => rw [List.map_nil, sel_nil_right]; rfl
    | cons x xs =>
      cases b with
      | true => rw [List.map_cons, sel_true_cons, sel_true_cons, List.map_cons, ih]
      | false => rw [List.map_cons, sel_false_cons, sel_false_cons, ih]

theorem sel_length_le {α : Type} (m : List Bool) (xs : List α) : (sel m xs).length ≤ xs.length := by
  induction m generalizing xs with
  | nil => rw [sel_nil_left]; exact Nat.zero_le _
  | cons b bs ih =>
    cases xs with
    | nil => rw [sel_nil_right]; exact Nat.zero_le _
    | cons x xs =>
      have := ih xs
      cases b with
      | true => rw [sel_true_cons, List.length_cons, List.length_cons]; omega
      | false => rw [sel_false_cons, List.length_cons]; omega

theorem mem_of_mem_sel {α : Type} {m : List Bool} {xs : List α} {x : α} (h : x ∈ sel m xs) : x ∈ xs := by
  induction m generalizing xs with
  | nil => rw [sel_nil_left] at h; cases h
  | cons b bs ih =>
    cases xs with
    | nil => rw [sel_nil_right] at h; cases h
    | cons y ys =>
      cases b with
      | true =>
        rw [sel_true_cons] at h
        cases h with
        | head => exact List.mem_cons_self
        | tail _ h => exact List.mem_cons_of_mem _ (ih h)
      | false =>
        rw [sel_false_cons] at h
        exact List.mem_cons_of_mem _ (ih h)

theorem sel_all {α : Type} (xs : List α) : sel (xs.map fun _ => true) xs = xs := by
  induction xs with
  | nil => rfl
  | cons x xs ih => rw [List.map_cons, sel_true_cons, ih]

theorem sumNats_sel_le (m : List Bool) (ps : List Nat) : sumNats (sel m ps) ≤ sumNats ps := by
  induction m generalizing ps with
  | nil => rw [sel_nil_left]; exact Nat.zero_le _
  | cons b bs ih =>
    cases ps with
    | nil => rw [sel_nil_right]; exact Nat.zero_le _
    | cons p ps =>
      have := ih ps
      cases b with
      | true => rw [sel_true_cons, sumNats_cons, sumNats_cons]; omega
      | false => rw [sel_false_cons, sumNats_cons]; omega

/-! ### Sums of floors, from below (from above: `sumNats_floor_mul_le`, Lemmas/Fees) -/

theorem sumNats_floor_lower (c T : Nat) (hT : 0 < T) (ps : List Nat) :
    sumNats ps * c + ps.length ≤ (sumNats (ps.map fun p => p * c / T) + ps.length) * T := by
  induction ps with
  | nil => simp
  | cons p ps ih =>
    rw [List.map_cons, sumNats_cons, sumNats_cons, List.length_cons, Nat.add_mul p]
    have h : p * c + 1 ≤ (p * c / T + 1) * T := by
      have h1 := Nat.div_add_mod (p * c) T
      have h2 := Nat.mod_lt (p * c) hT
      rw [Nat.mul_comm] at h1
      rw [Nat.succ_mul]
      omega
    have e : (p * c / T + sumNats (ps.map fun p => p * c / T) + (ps.length + 1)) * T
        = (p * c / T + 1) * T + (sumNats (ps.map fun p => p * c / T) + ps.length) * T := by
      rw [← Nat.add_mul]; congr 1; omega
    rw [e]
    omega

theorem sumNats_floor_lower_strict (c T : Nat) (hT : 0 < T) (ps : List Nat) (hne : ps ≠ []) :
    sumNats ps * c < (sumNats (ps.map fun p => p * c / T) + ps.length) * T := by
  have := sumNats_floor_lower c T hT ps
  have : 0 < ps.length := List.length_pos_iff.2 hne
  omega

theorem sumNats_floor_total_lower (c : Nat) (ps : List Nat) (hT : 0 < sumNats ps) (hne : ps ≠ []) :
    c < sumNats (ps.map fun p => p * c / sumNats ps) + ps.length := by
  have h := sumNats_floor_lower_strict c (sumNats ps) hT ps hne
  rw [Nat.mul_comm (sumNats ps) c] at h
  exact Nat.lt_of_mul_lt_mul_right h


def maskSlots (h : Bytes) : List Bool → List Bytes → List SigSlot
  | b :: bs, v :: vs => (if b then SigSlot.sig v h else SigSlot.absent) :: maskSlots h bs vs
  | _, _ => []

theorem maskSlots_nil_left (h : Bytes) (vs : List Bytes) : maskSlots h [] vs = [] := by
  unfold maskSlots; rfl

theorem maskSlots_nil_right (h : Bytes) (m : List Bool) : maskSlots h m [] = [] := by
  cases m <;> rfl

theorem maskSlots_cons_cons (h : Bytes) (b : Bool) (bs : List Bool) (v : Bytes) (vs : List Bytes) :
    maskSlots h (b :: bs) (v :: vs)
      = (if b then SigSlot.sig v h else SigSlot.absent) :: maskSlots h bs vs := rfl

theorem maskSlots_length (h : Bytes) (m : List Bool) (vs : List Bytes) :
    (maskSlots h m vs).length = min m.length vs.length := by
  induction m generalizing vs with
  | nil => rw [maskSlots_nil_left]; simp
  | cons b bs ih =>
    cases vs with
    | nil => rw [maskSlots_nil_right]; simp
    | cons v vs => rw [maskSlots_cons_cons, List.length_cons, ih]; simp only [List.length_cons]; omega

theorem slotsOK_maskSlots (h : Bytes) (m : List Bool) (vs : List Bytes) : SlotsOK vs (maskSlots h m vs) h := by
  induction m generalizing vs with
  | nil => rw [maskSlots_nil_left]; cases vs <;> simp [SlotsOK]
  | cons b bs ih =>
    cases vs with
    | nil => simp [SlotsOK]
    | cons v vs =>
      rw [maskSlots_cons_cons]
      refine ⟨?_, ih vs⟩
      cases b with
      | true => exact Or.inr rfl
      | false => exact Or.inl rfl

theorem validFor_sig_self (v h : Bytes) : (SigSlot.sig v h).validFor v h = true :=
  (SigSlot.validFor_iff _ _ _).2 rfl

theorem validFor_absent (v h : Bytes) : SigSlot.absent.validFor v h = false := rfl

theorem validPower_maskSlots (h : Bytes) (m : List Bool) (vs : List Bytes) (ps : List Nat)
    (hl : vs.length = ps.length) :
    validPower vs ps (maskSlots h m vs) h = sumNats (sel m ps) := by
  induction m generalizing vs ps with
  | nil => rw [maskSlots_nil_left, validPower_nil_right, sel_nil_left]; rfl
  | cons b bs ih =>
    cases vs with
    | nil => rw [validPower_nil_left]; cases ps with
      | nil => rw [sel_nil_right]; rfl
      | cons p ps => simp at hl
    | cons v vs =>
      cases ps with
      | nil => simp at hl
      | cons p ps =>
        have hl' : vs.length = ps.length := by simpa using hl
        rw [maskSlots_cons_cons, validPower_cons, ih vs ps hl']
        cases b with
        | true =>
          rw [sel_true_cons, sumNats_cons]
          simp only [if_true, validFor_sig_self]
        | false =>
          rw [sel_false_cons]
          simp [validFor_absent]

def validMask (h : Bytes) : List Bytes → List SigSlot → List Bool
  | v :: vs, s :: ss => s.validFor v h :: validMask h vs ss
  | _, _ => []

theorem validMask_nil_left (h : Bytes) (ss : List SigSlot) : validMask h [] ss = [] := by
  unfold validMask; rfl

theorem validMask_nil_right (h : Bytes) (vs : List Bytes) : validMask h vs [] = [] := by
  cases vs <;> rfl

theorem validMask_cons_cons (h : Bytes) (v : Bytes) (vs : List Bytes) (s : SigSlot) (ss : List SigSlot) :
    validMask h (v :: vs) (s :: ss) = s.validFor v h :: validMask h vs ss := rfl

theorem validPower_eq_sel (h : Bytes) (vs : List Bytes) (ps : List Nat) (ss : List SigSlot)
    (hl : vs.length = ps.length) :
    validPower vs ps ss h = sumNats (sel (validMask h vs ss) ps) := by
  induction vs generalizing ps ss with
  | nil => rw [validPower_nil_left, validMask_nil_left, sel_nil_left]; rfl
  | cons v vs ih =>
    cases ps with
    | nil => simp at hl
    | cons p ps =>
      have hl' : vs.length = ps.length := by simpa using hl
      cases ss with
      | nil => rw [validPower_nil_right, validMask_nil_right, sel_nil_left]; rfl
      | cons s ss =>
        rw [validPower_cons, validMask_cons_cons, ih ps ss hl']
        cases hv : s.validFor v h with
        | true => rw [sel_true_cons, sumNats_cons]; simp
        | false => rw [sel_false_cons]; simp

end Mhub2.SetNorm
