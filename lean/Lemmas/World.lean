/-
  The closed loop behind C01: the hub model together with an abstract ledger of the external
  custody (the Hub2 contracts / the Minter multisig) of ONE bridged asset `dn`, and the events in
  transit between the two, in the common unit of Mhub2/Value.lean (10^-36).  The property theorems
  are in Props/C01World.lean.

  HONEST-QUORUM ABSTRACTION.  The hub applies exactly the events the external chains emitted, each
  once, in emission order: `lock` / `execute` are the external transactions (they change the custody
  and emit an event), `applyDeposit` / `applyExec` are the hub's tally applying the oldest emitted
  event that is still unapplied through the event handler `Hub.handle`.  Consequently the `endBlock`
  operation of the hub (which applies whatever a quorum voted for, see C02/C03) is not a `hubOp`
  here; its second half, the expiry refunds, is the operation `expire`.

  (`Mhub2.World` of Mhub2/Step.lean is the hub + oracle pair of the line protocol; the world below
  lives in the namespace `Mhub2.C01`.)

  Lemma names end in the relation they establish: `_bf` (`BatchFrame`), `_sb` (`SameBatches`),
  `_obs` (`ObsSame`), `_bkeep`, `_sweep` (`SweepKeep`).
-/
import Lemmas.Value
namespace Mhub2.C01
open Mhub2

/-! ### Values seen by the denom `dn` -/

/-- Value, as seen by `dn`, of `a` external units of the token `(chain, coin)` of the hub's token
    table: `a · 10^(36 - decimals)` when that token is a token of `dn`, nothing otherwise. -/
def tokValue (h : Hub) (dn chain coin : String) (a : Int) : Int :=
  match h.tokenByExt chain coin with
  | some t => if t.denom = dn then extValue t a else 0
  | none => 0

/-- The collateral a deposit event locked on `chain` (`Hub2.transferToChain` locks exactly `_amount`,
    see `fact_sol_transfer_lock`), as seen by `dn`. -/
def lockValue (h : Hub) (dn chain : String) : Event → Int
  | .sendToHub _ coin amount _ _ _ _ => tokValue h dn chain coin amount
  | .transfer _ coin amount _ _ _ _ _ _ => tokValue h dn chain coin amount
  | _ => 0

/-- The events a `lock` can emit: a deposit or a chain-to-chain transfer of a non-negative amount
    (a `uint256` in the contract). -/
def isDeposit : Event → Bool
  | .sendToHub _ _ amount _ _ _ _ => decide (0 ≤ amount)
  | .transfer _ _ amount _ _ _ _ _ _ => decide (0 ≤ amount)
  | _ => false

/-- A batch paid out by the external contract whose `batchExecuted` event the hub has not applied
    yet: its key `(chain, tok, nonce)` and the batch the contract executed (the batch the hub stored
    under that key when the relayer submitted it). -/
structure PendingExec where
  chain : String
  tok : String
  nonce : Nat
  batch : Batch
  deriving Repr

deriving instance DecidableEq for Ste
deriving instance DecidableEq for Batch
deriving instance DecidableEq for PendingExec

/-- What the contract paid out for the batch (`Σ amounts` to the destinations, see `payOut` of
    Mhub2/Contract.lean), as seen by `dn`. -/
def execValue (h : Hub) (dn : String) (p : PendingExec) : Int :=
  tokValue h dn p.chain p.batch.extToken (sumInts (p.batch.txs.map (·.amount)))

/-! ### The world -/

structure World where
  hub : Hub
  /-- value of `dn` held by the external contracts / the multisig -/
  custody : Int
  /-- emitted deposit events (collateral already locked) the hub has not applied yet, oldest first -/
  pendingDeposits : List (String × Event) := []
  /-- batches already paid out externally whose execution event is not applied yet, oldest first -/
  pendingExecs : List PendingExec := []

/-- The hub operations of a world history: everything but `reset`, `token` (the token table is
    fixed), `fund` (the test harness' mint) and `endBlock` (replaced by `applyDeposit`, `applyExec`
    and `expire`). -/
def hubOpOk : Op → Bool
  | .reset => false
  | .token _ => false
  | .fund _ _ _ => false
  | .endBlock => false
  | _ => true

inductive WOp where
  /-- any hub operation with `hubOpOk`: send, cancel, request batch, votes, confirmations, begin
      block, environment (prices, holders, staking, params, block height/time) … -/
  | hubOp (op : Op)
  /-- the expiry refunds of the end block on one chain -/
  | expire (chain : String)
  /-- a user locks collateral on `chain`; `ev` is the event the contract emits -/
  | lock (chain : String) (ev : Event)
  /-- a relayer executes the hub's stored batch `(chain, tok, n)` on the external chain -/
  | execute (chain tok : String) (n : Nat)
  /-- the hub applies the oldest pending deposit event -/
  | applyDeposit
  /-- the hub applies the oldest pending execution event; the parameters are the fields of the
      `batchExecuted` event that the contract / the relayer choose -/
  | applyExec (evNonce height : Nat) (tx : String) (feePaid : Int) (payer : String)

/-- The contract's `lastBatchNonce[token] < nonce` check on the batch `b` it is given, restricted to
    what is still pending (the executions already applied have erased their batch and every older
    one of the token from the hub). -/
def execAllowed (l : List PendingExec) (chain : String) (b : Batch) : Bool :=
  l.all fun p => !(p.chain == chain && p.batch.extToken == b.extToken) || decide (p.batch.nonce < b.nonce)

/-- An operation whose precondition fails leaves the world unchanged. -/
def wstep (dn : String) (w : World) : WOp → World
  | .hubOp op => if hubOpOk op then { w with hub := (apply w.hub op).1 } else w
  | .expire chain =>
    match w.hub.refundExpired chain with
    | .ok h' => { w with hub := h' }
    | .error _ => w
  | .lock chain ev =>
    if isDeposit ev then
      { w with custody := w.custody + lockValue w.hub dn chain ev,
               pendingDeposits := w.pendingDeposits ++ [(chain, ev)] }
    else w
  | .execute chain tok n =>
    match w.hub.findBatch chain tok n with
    | some b =>
      if execAllowed w.pendingExecs chain b then
        { w with custody := w.custody - execValue w.hub dn ⟨chain, tok, n, b⟩,
                 pendingExecs := w.pendingExecs ++ [⟨chain, tok, n, b⟩] }
      else w
    | none => w
  | .applyDeposit =>
    match w.pendingDeposits with
    | [] => w
    | (chain, ev) :: rest =>
      match w.hub.handle false chain ev with
      | .ok h' => { w with hub := h', pendingDeposits := rest }
      | .error _ => { w with pendingDeposits := rest }
  | .applyExec evNonce height tx feePaid payer =>
    match w.pendingExecs with
    | [] => w
    | p :: rest =>
      match w.hub.handle false p.chain (.batchExecuted p.tok evNonce p.nonce height tx feePaid payer) with
      | .ok h' => { w with hub := h', pendingExecs := rest }
      | .error _ => { w with pendingExecs := rest }

def wrun (dn : String) (w : World) (ops : List WOp) : World := ops.foldl (wstep dn) w

@[simp] theorem wrun_nil (dn : String) (w : World) : wrun dn w [] = w := rfl
@[simp] theorem wrun_cons (dn : String) (w : World) (op : WOp) (ops : List WOp) :
    wrun dn w (op :: ops) = wrun dn (wstep dn w op) ops := rfl

/-! ### The invariant -/

def depSum (h : Hub) (dn : String) (l : List (String × Event)) : Int :=
  sumInts (l.map fun p => lockValue h dn p.1 p.2)

def execSum (h : Hub) (dn : String) (l : List PendingExec) : Int :=
  sumInts (l.map (execValue h dn))

/-- SOLVENCY, with the events in transit: what the hub owes (vouchers in circulation + transfers in
    flight) plus what it will mint for the deposits it has not seen yet is covered by the custody plus
    what was paid out for batches whose execution it has not seen yet (and will write off). -/
def SolvInv (dn : String) (w : World) : Prop :=
  w.hub.value dn + depSum w.hub dn w.pendingDeposits ≤ w.custody + execSum w.hub dn w.pendingExecs

/-- The batch recorded for a pending execution is the only batch the hub can ever store under its
    key: it has that key, its nonce is not above the chain's batch counter, and any stored batch
    with that key is that batch. -/
def PendOK (h : Hub) (p : PendingExec) : Prop :=
  batchKey p.batch = batchKeyOf p.tok p.nonce ∧
  p.batch.nonce ≤ (h.chain p.chain).lastBatchNonce ∧
  ∀ b' ∈ (h.chain p.chain).batches, batchKey b' = batchKey p.batch → b' = p.batch

structure WInv (dn : String) (w : World) : Prop where
  vinv : w.hub.VInv
  deps : ∀ p ∈ w.pendingDeposits, isDeposit p.2 = true
  pend : ∀ p ∈ w.pendingExecs, PendOK w.hub p
  solv : SolvInv dn w

/-- H1.  Hypothesis on an `applyExec` step: (a) the hub still stores a batch under the key of the
    oldest pending execution (by `PendOK` it is then the batch the contract executed), and (b) the
    handler succeeds. -/
def ExecOk (w : World) : WOp → Prop
  | .applyExec evNonce height tx feePaid payer =>
    ∀ p rest, w.pendingExecs = p :: rest →
      (w.hub.findBatch p.chain p.tok p.nonce).isSome = true ∧
      ∃ h', w.hub.handle false p.chain (.batchExecuted p.tok evNonce p.nonce height tx feePaid payer) = .ok h'
  | _ => True

/-- H1 in the form the value argument uses: the stored batch is the recorded one. -/
def ExecSame (w : World) : WOp → Prop
  | .applyExec evNonce height tx feePaid payer =>
    ∀ p rest, w.pendingExecs = p :: rest →
      w.hub.findBatch p.chain p.tok p.nonce = some p.batch ∧
      ∃ h', w.hub.handle false p.chain (.batchExecuted p.tok evNonce p.nonce height tx feePaid payer) = .ok h'
  | _ => True

/-- H1 + H2 along a history: every `applyExec` step satisfies `ExecOk`, and the counters of every
    visited hub state fit in a `uint64`. -/
def RunOk (dn : String) : World → List WOp → Prop
  | _, [] => True
  | w, op :: ops => ExecOk w op ∧ (wstep dn w op).hub.Bounded ∧ RunOk dn (wstep dn w op) ops


theorem hubOpOk_spec {op : Op} (h : hubOpOk op = true) :
    op ≠ .reset ∧ (∀ t, op ≠ .token t) ∧ (∀ a d x, op ≠ .fund a d x) ∧ op ≠ .endBlock := by
  cases op <;> simp [hubOpOk] at h ⊢

theorem tokValue_of_tokens {h h' : Hub} (e : h'.tokens = h.tokens) (dn chain coin : String) (a : Int) :
    tokValue h' dn chain coin a = tokValue h dn chain coin a := by
  unfold tokValue; rw [tokenByExt_of_tokens e]

theorem lockValue_of_tokens {h h' : Hub} (e : h'.tokens = h.tokens) (dn chain : String) (ev : Event) :
    lockValue h' dn chain ev = lockValue h dn chain ev := by
  cases ev <;> simp [lockValue, tokValue_of_tokens e]

theorem execValue_of_tokens {h h' : Hub} (e : h'.tokens = h.tokens) (dn : String) (p : PendingExec) :
    execValue h' dn p = execValue h dn p := by
  unfold execValue; rw [tokValue_of_tokens e]

theorem depSum_of_tokens {h h' : Hub} (e : h'.tokens = h.tokens) (dn : String) (l : List (String × Event)) :
    depSum h' dn l = depSum h dn l := by
  unfold depSum
  congr 1
  exact List.map_congr_left fun p _ => lockValue_of_tokens e dn p.1 p.2

theorem execSum_of_tokens {h h' : Hub} (e : h'.tokens = h.tokens) (dn : String) (l : List PendingExec) :
    execSum h' dn l = execSum h dn l := by
  unfold execSum
  congr 1
  exact List.map_congr_left fun p _ => execValue_of_tokens e dn p

@[simp] theorem depSum_nil (h : Hub) (dn : String) : depSum h dn [] = 0 := rfl
@[simp] theorem execSum_nil (h : Hub) (dn : String) : execSum h dn [] = 0 := rfl

theorem depSum_cons (h : Hub) (dn : String) (p : String × Event) (l : List (String × Event)) :
    depSum h dn (p :: l) = lockValue h dn p.1 p.2 + depSum h dn l := by
  simp [depSum, sumInts_cons]

theorem execSum_cons (h : Hub) (dn : String) (p : PendingExec) (l : List PendingExec) :
    execSum h dn (p :: l) = execValue h dn p + execSum h dn l := by
  simp [execSum, sumInts_cons]

theorem depSum_snoc (h : Hub) (dn : String) (l : List (String × Event)) (p : String × Event) :
    depSum h dn (l ++ [p]) = depSum h dn l + lockValue h dn p.1 p.2 := by
  simp [depSum, sumInts_append, sumInts_cons]

theorem execSum_snoc (h : Hub) (dn : String) (l : List PendingExec) (p : PendingExec) :
    execSum h dn (l ++ [p]) = execSum h dn l + execValue h dn p := by
  simp [execSum, sumInts_append, sumInts_cons]

/-- The locked value of an event is the bound `Hub.depositCredit` of the handler lemmas (for the
    generated minting mode `mintsFee = false`: the handler mints the amount, not amount + fee). -/
theorem lockValue_eq_depositCredit (h : Hub) (dn chain : String) (ev : Event) :
    lockValue h dn chain ev = h.depositCredit false chain dn ev := by
  cases ev with
  | sendToHub n coin amount s r ht tx =>
    simp only [lockValue, Hub.depositCredit, tokValue, extCredit]
    cases h.tokenByExt chain coin <;> rfl
  | transfer n coin amount fee s rc r ht tx =>
    simp only [lockValue, Hub.depositCredit, tokValue, extCredit, ttcMintAmount, Bool.false_eq_true, if_false]
    cases h.tokenByExt chain coin <;> rfl
  | batchExecuted => rfl
  | contractCall => rfl
  | signerSet => rfl

theorem tokValue_nonneg (h : Hub) (dn chain coin : String) {a : Int} (ha : 0 ≤ a) :
    0 ≤ tokValue h dn chain coin a := by
  unfold tokValue
  split
  · split
    · exact mul_unit_nonneg ha _
    · omega
  · omega

theorem lockValue_nonneg (h : Hub) (dn chain : String) {ev : Event} (hd : isDeposit ev = true) :
    0 ≤ lockValue h dn chain ev := by
  cases ev <;> simp [isDeposit] at hd <;> exact tokValue_nonneg h dn chain _ hd

theorem depSum_nonneg (h : Hub) (dn : String) {l : List (String × Event)}
    (hd : ∀ p ∈ l, isDeposit p.2 = true) : 0 ≤ depSum h dn l :=
  sumInts_map_nonneg fun p hp => lockValue_nonneg h dn p.1 (hd p hp)

inductive WStepOk (dn : String) (w : World) : WOp → World → Prop
  | hubOp {o} : hubOpOk o = true → WStepOk dn w (.hubOp o) { w with hub := (apply w.hub o).1 }
  | expire {chain h'} : w.hub.refundExpired chain = .ok h' → WStepOk dn w (.expire chain) { w with hub := h' }
  | lock {chain ev} : isDeposit ev = true →
      WStepOk dn w (.lock chain ev)
        { w with custody := w.custody + lockValue w.hub dn chain ev,
                 pendingDeposits := w.pendingDeposits ++ [(chain, ev)] }
  | execute {chain tok n b} : w.hub.findBatch chain tok n = some b → execAllowed w.pendingExecs chain b = true →
      WStepOk dn w (.execute chain tok n)
        { w with custody := w.custody - execValue w.hub dn ⟨chain, tok, n, b⟩,
                 pendingExecs := w.pendingExecs ++ [⟨chain, tok, n, b⟩] }
  | deposit {chain ev rest h'} : w.pendingDeposits = (chain, ev) :: rest → w.hub.handle false chain ev = .ok h' →
      WStepOk dn w .applyDeposit { w with hub := h', pendingDeposits := rest }
  | depositFail {chain ev rest e} : w.pendingDeposits = (chain, ev) :: rest →
      w.hub.handle false chain ev = .error e → WStepOk dn w .applyDeposit { w with pendingDeposits := rest }
  | exec {evn ht tx fp payer p rest h'} : w.pendingExecs = p :: rest →
      w.hub.handle false p.chain (.batchExecuted p.tok evn p.nonce ht tx fp payer) = .ok h' →
      WStepOk dn w (.applyExec evn ht tx fp payer) { w with hub := h', pendingExecs := rest }
  | execFail {evn ht tx fp payer p rest e} : w.pendingExecs = p :: rest →
      w.hub.handle false p.chain (.batchExecuted p.tok evn p.nonce ht tx fp payer) = .error e →
      WStepOk dn w (.applyExec evn ht tx fp payer) { w with pendingExecs := rest }

theorem wstep_cases (dn : String) (w : World) (op : WOp) :
    wstep dn w op = w ∨ WStepOk dn w op (wstep dn w op) := by
  cases op with
  | hubOp o =>
    cases hok : hubOpOk o with
    | false => exact .inl (by simp only [wstep, hok, Bool.false_eq_true, if_false])
    | true => refine .inr ?_; simp only [wstep, hok, if_true]; exact .hubOp hok
  | expire chain =>
    cases hok : w.hub.refundExpired chain with
    | error e => exact .inl (by simp only [wstep, hok])
    | ok h' => refine .inr ?_; simp only [wstep, hok]; exact .expire hok
  | lock chain ev =>
    cases hd : isDeposit ev with
    | false => exact .inl (by simp only [wstep, hd, Bool.false_eq_true, if_false])
    | true => refine .inr ?_; simp only [wstep, hd, if_true]; exact .lock hd
  | execute chain tok n =>
    cases hfb : w.hub.findBatch chain tok n with
    | none => exact .inl (by simp only [wstep, hfb])
    | some b =>
      cases hal : execAllowed w.pendingExecs chain b with
      | false => exact .inl (by simp only [wstep, hfb, hal, Bool.false_eq_true, if_false])
      | true => refine .inr ?_; simp only [wstep, hfb, hal, if_true]; exact .execute hfb hal
  | applyDeposit =>
    cases hpd : w.pendingDeposits with
    | nil => exact .inl (by simp only [wstep, hpd])
    | cons p rest =>
      obtain ⟨chain, ev⟩ := p
      refine .inr ?_
      cases hok : w.hub.handle false chain ev with
      | error e => simp only [wstep, hpd, hok]; exact .depositFail hpd hok
      | ok h' => simp only [wstep, hpd, hok]; exact .deposit hpd hok
  | applyExec evn ht tx fp payer =>
    cases hpe : w.pendingExecs with
    | nil => exact .inl (by simp only [wstep, hpe])
    | cons p rest =>
      refine .inr ?_
      cases hok : w.hub.handle false p.chain (.batchExecuted p.tok evn p.nonce ht tx fp payer) with
      | error e => simp only [wstep, hpe, hok]; exact .execFail hpe hok
      | ok h' => simp only [wstep, hpe, hok]; exact .exec hpe hok

theorem wstep_tokens (dn : String) (w : World) (op : WOp) : (wstep dn w op).hub.tokens = w.hub.tokens := by
  rcases wstep_cases dn w op with e | e
  · rw [e]
  generalize wstep dn w op = w' at e
  cases e with
  | hubOp hok =>
    obtain ⟨hr, ht, hf, he⟩ := hubOpOk_spec hok
    exact (apply_vrel w.hub _ hr ht hf he "").tokens
  | expire e => exact (refundExpired_vrel e "").tokens
  | deposit _ e | exec _ e => exact (handle_vrel e "").tokens
  | lock | execute | depositFail | execFail => rfl

/-! ### Stored batches are immutable and batch nonces are never reused

  `BatchFrame h h'`: on every chain the batch counter only grows, and a batch stored afterwards
  either was stored before (the very same batch) or carries a nonce above the old counter.  Every
  operation of a world history is a `BatchFrame`.  Consequently a key `(chain, tok, n)` that named
  the batch `b` can later only name `b` (or nothing). -/

def BatchFrame (h h' : Hub) : Prop :=
  ∀ c, (h.chain c).lastBatchNonce ≤ (h'.chain c).lastBatchNonce ∧
    ∀ b ∈ (h'.chain c).batches, b ∈ (h.chain c).batches ∨ (h.chain c).lastBatchNonce < b.nonce

theorem BatchFrame.refl (h : Hub) : BatchFrame h h := fun _ => ⟨Nat.le_refl _, fun _ hb => .inl hb⟩

theorem BatchFrame.trans {a b c : Hub} (h1 : BatchFrame a b) (h2 : BatchFrame b c) : BatchFrame a c := by
  intro x
  obtain ⟨l1, m1⟩ := h1 x
  obtain ⟨l2, m2⟩ := h2 x
  refine ⟨Nat.le_trans l1 l2, fun y hy => ?_⟩
  rcases m2 y hy with hy | hy
  · exact m1 y hy
  · exact .inr (by omega)

theorem BatchFrame.of_sub {h h' : Hub} {chain : String} (ho : ∀ c, chain ≠ c → h'.chain c = h.chain c)
    (hl : (h'.chain chain).lastBatchNonce = (h.chain chain).lastBatchNonce)
    (hb : ∀ b ∈ (h'.chain chain).batches, b ∈ (h.chain chain).batches) : BatchFrame h h' := by
  intro c
  by_cases hc : chain = c
  · subst hc; exact ⟨by omega, fun b hbm => .inl (hb b hbm)⟩
  · rw [ho c hc]; exact ⟨Nat.le_refl _, fun _ hbm => .inl hbm⟩

theorem BatchFrame.setChain {h : Hub} {c : String} {s : ChainSt}
    (hl : s.lastBatchNonce = (h.chain c).lastBatchNonce) (hb : ∀ b ∈ s.batches, b ∈ (h.chain c).batches) :
    BatchFrame h (h.setChain c s) :=
  BatchFrame.of_sub (fun _ hx => chain_setChain_ne _ _ hx) (by rw [chain_setChain]; exact hl)
    (by rw [chain_setChain]; exact hb)

theorem BatchFrame.of_same {h h' : Hub} (hs : Hub.SameLedger h h') : BatchFrame h h' := by
  intro c
  obtain ⟨_, e2, _, e4⟩ := hs c
  rw [e2, e4]; exact ⟨Nat.le_refl _, fun _ hbm => .inl hbm⟩

theorem BatchFrame.of_cs {h h' : Hub} (e : h'.cs = h.cs) : BatchFrame h h' :=
  BatchFrame.of_same (Hub.SameLedger.of_cs e)

theorem createSte_bf {h h' : Hub} {chain sender rcp denom tx rc ra : String} {a f cm : Int} {id : Nat}
    (hok : h.createSte chain sender rcp denom a f cm tx rc ra = .ok (h', id)) : BatchFrame h h' := by
  obtain ⟨_, _, _, _, _, e2, _, e4, e5⟩ := createSte_eff hok
  exact BatchFrame.of_sub e5 e4 (fun b hb => by rw [← e2]; exact hb)

theorem cancelBatch_bf {h h' : Hub} {chain tok : String} {n : Nat} (hok : h.cancelBatch chain tok n = .ok h') :
    BatchFrame h h' := by
  obtain ⟨_, b, _, rfl⟩ := cancelBatch_ok hok
  exact BatchFrame.setChain rfl (fun _ hx => (eraseByKey_sublist _ _ _).subset hx)

theorem buildBatch_bf (h : Hub) (chain tok : String) (n : Nat) : BatchFrame h (h.buildBatch chain tok n).1 := by
  rcases buildBatch_eff h chain tok n with ⟨_, he⟩ | ⟨b, _, _, _, hbn, hbb, _, _, hl⟩
  · rw [he]; exact BatchFrame.refl _
  · intro c
    by_cases hc : chain = c
    · subst hc
      refine ⟨by omega, fun x hx => ?_⟩
      rw [hbb] at hx
      rcases mem_insertByKey_cases batchKey hx with e | e
      · subst e; exact .inr (by omega)
      · exact .inl e
    · rw [buildBatch_only h chain tok n c hc]; exact ⟨Nat.le_refl _, fun _ hbm => .inl hbm⟩

theorem BatchFrame.of_moves {h h' : Hub} (hm : Moves h h') : BatchFrame h h' := by
  induction hm with
  | refl => exact BatchFrame.refl _
  | trans _ _ ih1 ih2 => exact ih1.trans ih2
  | bank e => exact BatchFrame.of_cs (by rw [e])
  | status => exact BatchFrame.of_cs rfl
  | create _ _ _ hc => exact createSte_bf hc
  | erasePool a c k => exact BatchFrame.setChain rfl (fun _ hb => hb)
  | cancelBatch hc => exact cancelBatch_bf hc
  | eraseBatch a c k => exact BatchFrame.setChain rfl (fun _ hb => (eraseByKey_sublist _ _ _).subset hb)
  | observedSet a c x => exact BatchFrame.setChain rfl (fun _ hb => hb)

theorem requestBatch_bf {h h' : Hub} {chain denom : String} {ob : Option Batch}
    (hok : h.requestBatch chain denom = .ok (h', ob)) : BatchFrame h h' := by
  obtain ⟨_, t, _, e⟩ := requestBatch_ok hok
  have := buildBatch_bf h chain t.extId 100
  rw [e] at this
  exact this

theorem beginBlock_bf {h h' : Hub} (hok : h.beginBlock = .ok h') : BatchFrame h h' :=
  beginBlock_rel BatchFrame.refl BatchFrame.trans (fun e => .of_moves (cleanup_moves e)) (fun a c tok => buildBatch_bf a c tok 100)
    (fun e => BatchFrame.of_same (createSignerSetTxs_side e).frame.1)
    (fun a c => BatchFrame.of_same (pruneSignerSets_side a c).frame.1) hok

theorem apply_bf (h : Hub) (op : Op) (hok : hubOpOk op = true) : BatchFrame h (apply h op).1 := by
  rcases apply_cases h op with e | e | e
  · rw [e]; exact BatchFrame.refl _
  · subst e; cases hok
  · generalize (apply h op).1 = h' at e
    cases e with
    | token | fund | endBlock => cases hok
    | chains | param | gravityId | price | holder | staking | block => exact BatchFrame.of_cs rfl
    | beginBlock e => exact beginBlock_bf e
    | send e => exact BatchFrame.of_moves (sendToExternal_moves e)
    | cancel e => exact BatchFrame.of_moves (cancelMsg_moves e)
    | reqBatch e => exact requestBatch_bf e
    | vote _ e => exact BatchFrame.of_same (submitEvent_side e).frame.1
    | confirm e => exact BatchFrame.of_same (confirm_side e).frame.1
    | delegate e => exact BatchFrame.of_same (setDelegateKeys_side e).frame.1

theorem wstep_bf (dn : String) (w : World) (op : WOp) : BatchFrame w.hub (wstep dn w op).hub := by
  rcases wstep_cases dn w op with e | e
  · rw [e]; exact BatchFrame.refl _
  generalize wstep dn w op = w' at e
  cases e with
  | hubOp hok => exact apply_bf w.hub _ hok
  | expire e => exact BatchFrame.of_moves (refundExpired_moves e)
  | deposit _ e | exec _ e => exact BatchFrame.of_moves (handle_moves e)
  | lock | execute | depositFail | execFail => exact BatchFrame.refl _

/-! ### Pending executions keep naming their batch -/

theorem pendOK_frame {h h' : Hub} {p : PendingExec} (hp : PendOK h p) (hf : BatchFrame h h')
    (hi : h'.LedgerInv) (hb : h'.Bounded) : PendOK h' p := by
  obtain ⟨hk, hn, hu⟩ := hp
  obtain ⟨hl, hm⟩ := hf p.chain
  refine ⟨hk, by omega, fun b' hb' he => ?_⟩
  rcases hm b' hb' with hin | hlt
  · exact hu b' hin he
  · exfalso
    have h1 := (Hub.ledgerInv_iff.mp hi p.chain).brange b' hb'
    have h2 := (hb p.chain).2
    have := Mhub2.batchKey_inj he (by omega) (by omega)
    omega

theorem pendOK_of_findBatch {h : Hub} {chain tok : String} {n : Nat} {b : Batch} (hi : h.LedgerInv)
    (hb : h.Bounded) (hfb : h.findBatch chain tok n = some b) : PendOK h ⟨chain, tok, n, b⟩ := by
  obtain ⟨hbm, hbk⟩ := findBatch_some hfb
  have hci := Hub.ledgerInv_iff.mp hi chain
  exact ⟨hbk, hci.brange b hbm, fun b' hb' he => hci.batchKey_inj (hb chain).2 hb' hbm he⟩

theorem findBatch_of_pendOK {h : Hub} {p : PendingExec} (hp : PendOK h p) {b' : Batch}
    (hfb : h.findBatch p.chain p.tok p.nonce = some b') : b' = p.batch := by
  obtain ⟨hbm, hbk⟩ := findBatch_some hfb
  exact hp.2.2 b' hbm (hbk.trans hp.1.symm)

theorem execSame_of_execOk {w : World} {op : WOp} (hp : ∀ p ∈ w.pendingExecs, PendOK w.hub p)
    (hx : ExecOk w op) : ExecSame w op := by
  cases op with
  | applyExec evn ht tx fp payer =>
    intro p rest hpe
    obtain ⟨hs, hh⟩ := hx p rest hpe
    refine ⟨?_, hh⟩
    cases hfb : w.hub.findBatch p.chain p.tok p.nonce with
    | none => rw [hfb] at hs; cases hs
    | some b' => rw [findBatch_of_pendOK (hp p (by rw [hpe]; exact List.mem_cons_self)) hfb]
  | _ => trivial

theorem pend_step (dn : String) (w : World) (op : WOp) (hp : ∀ p ∈ w.pendingExecs, PendOK w.hub p)
    (hi : (wstep dn w op).hub.LedgerInv) (hb : (wstep dn w op).hub.Bounded) :
    ∀ p ∈ (wstep dn w op).pendingExecs, PendOK (wstep dn w op).hub p := by
  have keep : ∀ p ∈ w.pendingExecs, PendOK (wstep dn w op).hub p :=
    fun p hpm => pendOK_frame (hp p hpm) (wstep_bf dn w op) hi hb
  rcases wstep_cases dn w op with e | e
  · rw [e]; exact hp
  generalize wstep dn w op = w' at e keep hi hb
  cases e with
  | hubOp | expire | lock | deposit | depositFail => exact keep
  | execute hfb =>
    intro p hpm
    rcases List.mem_append.mp hpm with hm | hm
    · exact keep p hm
    · rw [List.mem_singleton.mp hm]; exact pendOK_of_findBatch hi hb hfb
  | exec hpe | execFail hpe => exact fun p hpm => keep p (by rw [hpe]; exact List.mem_cons_of_mem _ hpm)

/-! ### Which stored batches an operation may withdraw

  `SameBatches`: no chain's batch store changes.  `BKeep P h h'`: a batch stored in `h` is still stored
  in `h'` unless it satisfies `P` (under the ledger invariant before and the `uint64` bound after).
  Hub operations withdraw only timed-out batches (begin block); an applied execution withdraws only
  the executed batch and older batches of its token; nothing else withdraws a batch. -/

def SameBatches (h h' : Hub) : Prop := ∀ c, (h'.chain c).batches = (h.chain c).batches

theorem SameBatches.refl (h : Hub) : SameBatches h h := fun _ => rfl
theorem SameBatches.trans {a b c : Hub} (h1 : SameBatches a b) (h2 : SameBatches b c) : SameBatches a c :=
  fun x => (h2 x).trans (h1 x)
theorem SameBatches.of_cs {h h' : Hub} (e : h'.cs = h.cs) : SameBatches h h' := fun c => by rw [chain_of_cs e]
theorem SameBatches.of_same {h h' : Hub} (hs : Hub.SameLedger h h') : SameBatches h h' := fun c => (hs c).2.1

theorem SameBatches.mem {h h' : Hub} (sb : SameBatches h h') {c : String} {b : Batch}
    (hb : b ∈ (h.chain c).batches) : b ∈ (h'.chain c).batches := by rw [sb c]; exact hb

theorem SameBatches.of_chain {h h' : Hub} {chain : String} (ho : ∀ c, chain ≠ c → h'.chain c = h.chain c)
    (e : (h'.chain chain).batches = (h.chain chain).batches) : SameBatches h h' := by
  intro c
  by_cases hc : chain = c
  · subst hc; exact e
  · rw [ho c hc]

theorem createSte_sb {h h' : Hub} {chain sender rcp denom tx rc ra : String} {a f cm : Int} {id : Nat}
    (hok : h.createSte chain sender rcp denom a f cm tx rc ra = .ok (h', id)) : SameBatches h h' := by
  obtain ⟨_, _, _, _, _, e2, _, _, e5⟩ := createSte_eff hok
  exact SameBatches.of_chain e5 e2

theorem SameBatches.of_moves {h h' : Hub} (hm : MovesB false h h') : SameBatches h h' := by
  induction hm with
  | refl => exact .refl _
  | trans _ _ ih1 ih2 => exact ih1.trans ih2
  | bank e => exact .of_cs (by rw [e])
  | status => exact .of_cs rfl
  | create _ _ _ hc => exact createSte_sb hc
  | erasePool a c _ | observedSet a c _ =>
    exact .of_chain (fun _ hx => chain_setChain_ne _ _ hx) (by rw [chain_setChain])
  | cancelBatch _ hb | eraseBatch _ _ _ hb => cases hb

theorem handle_deposit_sb {h h' : Hub} {mf : Bool} {chain : String} {ev : Event} (hd : isDeposit ev = true)
    (hok : h.handle mf chain ev = .ok h') : SameBatches h h' := by
  cases ev with
  | sendToHub n coin amount sender receiver height txHash => exact .of_moves (handleSendToHub_moves hok)
  | transfer n coin amount fee sender rchain receiver height txHash =>
    rcases (handle_transfer_ok hok).2 with ⟨_, _, e⟩ | ⟨_, v, _, _, _, _, hv, _, _, _, _, _, _, hc⟩
    · exact .of_moves (handleSendToHub_moves e)
    · exact (SameBatches.of_moves (handleSendToHub_moves hv)).trans (createSte_sb hc)
  | batchExecuted coin n bn height txHash feePaid feePayer => cases hd
  | contractCall n scope inv height => cases hd
  | signerSet n sn height members txHash => cases hd

def ObsSame (h h' : Hub) : Prop := ∀ c, (h'.chain c).obsExtHeight = (h.chain c).obsExtHeight

theorem ObsSame.refl (h : Hub) : ObsSame h h := fun _ => rfl
theorem ObsSame.trans {a b c : Hub} (h1 : ObsSame a b) (h2 : ObsSame b c) : ObsSame a c :=
  fun x => (h2 x).trans (h1 x)
theorem ObsSame.of_cs {h h' : Hub} (e : h'.cs = h.cs) : ObsSame h h' := fun c => by rw [chain_of_cs e]

theorem ObsSame.setChain {h : Hub} {c : String} {s : ChainSt} (e : s.obsExtHeight = (h.chain c).obsExtHeight) :
    ObsSame h (h.setChain c s) := by
  intro x
  by_cases hx : c = x
  · subst hx; rw [chain_setChain]; exact e
  · rw [chain_setChain_ne _ _ hx]

theorem ObsSame.of_moves {h h' : Hub} (hm : Moves h h') : ObsSame h h' := fun c => by
  rw [(Moves.frame hm).2 c]

theorem ObsSame.of_side {chain : String} {h h' : Hub} (hw : SideWrite chain h h') : ObsSame h h' := by
  rcases hw with rfl | ⟨s, rfl, _, _, _, _, h5⟩
  · exact ObsSame.refl _
  · exact ObsSame.setChain h5

theorem buildBatch_obs (h : Hub) (chain tok : String) (n : Nat) : ObsSame h (h.buildBatch chain tok n).1 := by
  rw [buildBatch_eq]
  by_cases he : (selectForBatch (h.chain chain).pool tok n).isEmpty = true
  · rw [if_pos he]; exact ObsSame.refl _
  · rw [if_neg he]
    have hcs : (h.markBatched (selectForBatch (h.chain chain).pool tok n)).cs = h.cs := by
      rw [markBatched_frame]
    exact (ObsSame.of_cs hcs).trans (ObsSame.setChain (by rw [chain_of_cs hcs]))

structure BKeep (P : String → Batch → Prop) (h h' : Hub) : Prop where
  step : Hub.Step h h'
  keep : h.LedgerInv → h'.Bounded → ∀ c, ∀ b ∈ (h.chain c).batches, b ∈ (h'.chain c).batches ∨ P c b

theorem BKeep.refl (P : String → Batch → Prop) (h : Hub) : BKeep P h h :=
  ⟨Hub.Step.refl h, fun _ _ _ _ hb => .inl hb⟩

theorem BKeep.trans {P : String → Batch → Prop} {a b c : Hub} (h1 : BKeep P a b) (h2 : BKeep P b c) :
    BKeep P a c := by
  refine ⟨h1.step.trans h2.step, fun hi hb x y hy => ?_⟩
  have hbb := hb.mono h2.step
  rcases h1.keep hi hbb x y hy with hm | hp
  · exact h2.keep (h1.step.inv hi hbb) hb x y hm
  · exact .inr hp

theorem BKeep.mono {P Q : String → Batch → Prop} {h h' : Hub} (hpq : ∀ c b, P c b → Q c b) (hk : BKeep P h h') :
    BKeep Q h h' :=
  ⟨hk.step, fun hi hb c b hbm => (hk.keep hi hb c b hbm).imp id (hpq c b)⟩

theorem BKeep.of_sb {P : String → Batch → Prop} {h h' : Hub} (hs : Hub.Step h h') (sb : SameBatches h h') :
    BKeep P h h' :=
  ⟨hs, fun _ _ _ _ hb => .inl (sb.mem hb)⟩

def TimedOut (a : Hub) (c : String) (x : Batch) : Prop := x.timeout < (a.chain c).obsExtHeight

/-- What a part of `BeginBlocker` does to the stored batches: the observed external heights stay,
    and only batches that were timed out at its start are withdrawn. -/
def SweepKeep (a b : Hub) : Prop := ObsSame a b ∧ BKeep (TimedOut a) a b

theorem SweepKeep.refl (a : Hub) : SweepKeep a a := ⟨ObsSame.refl a, BKeep.refl _ a⟩

theorem SweepKeep.trans {a b c : Hub} (h1 : SweepKeep a b) (h2 : SweepKeep b c) : SweepKeep a c :=
  ⟨h1.1.trans h2.1, h1.2.trans (h2.2.mono (fun x y hy => by
    unfold TimedOut at hy ⊢; rw [h1.1 x] at hy; exact hy))⟩

theorem SweepKeep.of_same {a b : Hub} (hs : Hub.SameLedger a b) (ho : ObsSame a b) : SweepKeep a b :=
  ⟨ho, BKeep.of_sb hs.keeps.step (SameBatches.of_same hs)⟩

theorem cleanup_sweep {a b : Hub} {chain : String} (hc : a.cleanupTimedOutBatches chain = .ok b) :
    SweepKeep a b := by
  have hk := (cleanup_bk hc).1.1
  have ho := (cleanup_bk hc).2
  refine ⟨ObsSame.of_moves (cleanup_moves hc), hk.step, fun hi hb c x hx => ?_⟩
  by_cases hcc : chain = c
  · subst hcc
    obtain ⟨hev, _⟩ := cleanup_evo hi (hb.mono hk.step) hc
    by_cases hin : x ∈ (b.chain chain).batches
    · exact .inl hin
    · exact .inr (hev.removed x hx hin).1
  · rw [ho c hcc]; exact .inl hx

theorem buildBatch_sweep (a : Hub) (chain tok : String) (n : Nat) : SweepKeep a (a.buildBatch chain tok n).1 :=
  ⟨buildBatch_obs a chain tok n, (buildBatch_keeps a chain tok n).step,
    fun hi hb c x hx => .inl ((buildBatch_bk c a chain tok n).2 hi hb x hx)⟩

theorem beginBlock_bkeep {h h' : Hub} (hok : h.beginBlock = .ok h') : BKeep (TimedOut h) h h' :=
  (beginBlock_rel SweepKeep.refl SweepKeep.trans cleanup_sweep (fun a c tok => buildBatch_sweep a c tok 100)
    (fun e => SweepKeep.of_same (createSignerSetTxs_side e).frame.1 (.of_side (createSignerSetTxs_side e)))
    (fun a c => SweepKeep.of_same (pruneSignerSets_side a c).frame.1 (.of_side (pruneSignerSets_side a c))) hok).2

theorem requestBatch_bkeep {h h' : Hub} {chain denom : String} {ob : Option Batch}
    (hok : h.requestBatch chain denom = .ok (h', ob)) : BKeep (TimedOut h) h h' := by
  obtain ⟨_, t, _, e⟩ := requestBatch_ok hok
  have := (buildBatch_sweep h chain t.extId 100).2
  rw [e] at this
  exact this

theorem apply_bkeep (h : Hub) (op : Op) (hok : hubOpOk op = true) : BKeep (TimedOut h) h (apply h op).1 := by
  have hst : Hub.Step h (apply h op).1 := (apply_step h op (hubOpOk_spec hok).1).1
  rcases apply_cases h op with e | e | e
  · rw [e]; exact BKeep.refl _ _
  · subst e; cases hok
  · generalize (apply h op).1 = h' at e hst
    cases e with
    | token | fund | endBlock => cases hok
    | chains | param | gravityId | price | holder | staking | block =>
      exact BKeep.of_sb hst (SameBatches.of_cs rfl)
    | beginBlock e => exact beginBlock_bkeep e
    | send e => exact BKeep.of_sb hst (.of_moves (sendToExternal_moves e))
    | cancel e => exact BKeep.of_sb hst (.of_moves (cancelMsg_moves e))
    | reqBatch e => exact requestBatch_bkeep e
    | vote _ e => exact BKeep.of_sb hst (SameBatches.of_same (submitEvent_side e).frame.1)
    | confirm e => exact BKeep.of_sb hst (SameBatches.of_same (confirm_side e).frame.1)
    | delegate e => exact BKeep.of_sb hst (SameBatches.of_same (setDelegateKeys_side e).frame.1)

theorem batchExecuted_keep {h h' : Hub} {chain tok tx payer : String} {n : Nat} {fp : Int} {b : Batch}
    (hok : h.batchExecuted chain tok n tx fp payer = .ok h') (hfb : h.findBatch chain tok n = some b)
    (hi : h.LedgerInv) (hb : h'.Bounded) :
    ∀ c, ∀ x ∈ (h.chain c).batches, x ∈ (h'.chain c).batches ∨
      (c = chain ∧ x.extToken = b.extToken ∧ x.nonce ≤ b.nonce) := by
  intro c x hx
  by_cases hc : chain = c
  · subst hc
    by_cases hin : x ∈ (h'.chain chain).batches
    · exact .inl hin
    · rcases ((batchExecuted_exact hi hb hok hfb).1 x hx).mp hin with rfl | ⟨_, h2, h3⟩
      · exact .inr ⟨rfl, rfl, Nat.le_refl _⟩
      · exact .inr ⟨rfl, h2, Nat.le_of_lt h3⟩
  · rcases batchExecuted_decomp hok with ⟨_, rfl⟩ | ⟨_, v, _, hv, hm⟩
    · exact .inl hx
    · refine .inl ?_
      rw [hm.batches c, chain_setChain_ne _ _ hc, bexCancelOlder_only hv c hc]
      exact hx

/-! ### The executed batch stays stored: H1(a) reduced to the timeout condition

  `Stored w`: the batch of every pending execution is still in the hub's batch store.  It is
  preserved by every step provided no hub operation runs while a pending execution's batch is
  timed out on the hub (`NoTimeout`), the pending executions of one token being in nonce order
  (`QOrd`, which `execAllowed` enforces). -/

def Stored (w : World) : Prop := ∀ p ∈ w.pendingExecs, p.batch ∈ (w.hub.chain p.chain).batches

def QOrd (l : List PendingExec) : Prop :=
  l.Pairwise fun p q => p.chain = q.chain → p.batch.extToken = q.batch.extToken → p.batch.nonce < q.batch.nonce

/-- The clock condition (C13 + the contract's `block.number < timeout`, not modelled): when a hub
    operation runs, no batch that was executed externally and whose execution event is still in
    transit has `timeout <` the hub's observed external height of its chain. -/
def NoTimeout (w : World) : WOp → Prop
  | .hubOp _ => ∀ p ∈ w.pendingExecs, ¬ TimedOut w.hub p.chain p.batch
  | _ => True

theorem execAllowed_spec {l : List PendingExec} {chain : String} {b : Batch} (h : execAllowed l chain b = true) :
    ∀ p ∈ l, p.chain = chain → p.batch.extToken = b.extToken → p.batch.nonce < b.nonce := by
  intro p hp hc ht
  unfold execAllowed at h
  have := List.all_eq_true.mp h p hp
  simpa [hc, ht] using this

theorem findBatch_isSome_of_mem {h : Hub} {p : PendingExec} (hp : PendOK h p)
    (hm : p.batch ∈ (h.chain p.chain).batches) : (h.findBatch p.chain p.tok p.nonce).isSome = true := by
  unfold Hub.findBatch
  rw [List.find?_isSome]
  exact ⟨p.batch, hm, by simpa using hp.1⟩

theorem stored_step (dn : String) (w : World) (op : WOp) (hi : WInv dn w) (hs : Stored w)
    (hq : QOrd w.pendingExecs) (hn : NoTimeout w op) (hb : (wstep dn w op).hub.Bounded) :
    Stored (wstep dn w op) ∧ QOrd (wstep dn w op).pendingExecs := by
  rcases wstep_cases dn w op with e | e
  · rw [e]; exact ⟨hs, hq⟩
  generalize wstep dn w op = w' at e hb
  cases e with
  | hubOp hok =>
    refine ⟨fun p hp => ?_, hq⟩
    rcases (apply_bkeep w.hub _ hok).keep hi.vinv.led hb p.chain p.batch (hs p hp) with h | h
    · exact h
    · exact absurd h (hn p hp)
  | expire hok => exact ⟨fun p hp => (SameBatches.of_moves (refundExpired_moves hok)).mem (hs p hp), hq⟩
  | lock | depositFail => exact ⟨hs, hq⟩
  | execute hfb hal =>
    refine ⟨fun p hp => ?_, List.pairwise_append.mpr ⟨hq, List.pairwise_singleton _ _, fun p hp q hq' => ?_⟩⟩
    · rcases List.mem_append.mp hp with hm | hm
      · exact hs p hm
      · rw [List.mem_singleton.mp hm]; exact (findBatch_some hfb).1
    · rw [List.mem_singleton.mp hq']; exact execAllowed_spec hal p hp
  | deposit hpd hok =>
    have hdp := hi.deps _ (by rw [hpd]; exact List.mem_cons_self)
    exact ⟨fun p hp => (handle_deposit_sb hdp hok).mem (hs p hp), hq⟩
  | execFail hpe =>
    rw [hpe] at hq
    exact ⟨fun q hqm => hs q (by rw [hpe]; exact List.mem_cons_of_mem _ hqm), (List.pairwise_cons.mp hq).2⟩
  | @exec _ _ tx fp payer p0 rest h' hpe hok =>
    rw [hpe] at hq
    obtain ⟨hhead, hq'⟩ := List.pairwise_cons.mp hq
    have hsr : ∀ q ∈ rest, q.batch ∈ (w.hub.chain q.chain).batches :=
      fun q hqm => hs q (by rw [hpe]; exact List.mem_cons_of_mem _ hqm)
    refine ⟨fun q hqm => ?_, hq'⟩
    have hbe : w.hub.batchExecuted p0.chain p0.tok p0.nonce tx fp payer = .ok h' := hok
    cases hfb : w.hub.findBatch p0.chain p0.tok p0.nonce with
    | none => rw [batchExecuted_none hbe hfb]; exact hsr q hqm
    | some b' =>
      rcases batchExecuted_keep hbe hfb hi.vinv.led hb q.chain q.batch (hsr q hqm) with h | ⟨hc, het, hnn⟩
      · exact h
      · -- a pending execution of the same token has a larger nonce
        rw [findBatch_of_pendOK (hi.pend p0 (by rw [hpe]; exact List.mem_cons_self)) hfb] at het hnn
        have := hhead q hqm hc.symm het.symm
        omega

/-! ### Checking H1 and H2 on a concrete history by evaluation -/

def boundedB (h : Hub) : Bool :=
  h.cs.all fun p => decide (p.2.lastSteId < 2 ^ 64) && decide (p.2.lastBatchNonce < 2 ^ 64)

theorem bounded_of_B {h : Hub} (hb : boundedB h = true) : h.Bounded := Hub.bounded_of_all hb

def execOkB (w : World) : WOp → Bool
  | .applyExec evNonce height tx feePaid payer =>
    match w.pendingExecs with
    | [] => true
    | p :: _ =>
      (w.hub.findBatch p.chain p.tok p.nonce).isSome &&
      (match w.hub.handle false p.chain (.batchExecuted p.tok evNonce p.nonce height tx feePaid payer) with
        | .ok _ => true
        | .error _ => false)
  | _ => true

def runOkB (dn : String) : World → List WOp → Bool
  | _, [] => true
  | w, op :: ops => execOkB w op && boundedB (wstep dn w op).hub && runOkB dn (wstep dn w op) ops

theorem execOk_of_B {w : World} {op : WOp} (h : execOkB w op = true) : ExecOk w op := by
  cases op with
  | applyExec evn ht tx fp payer =>
    intro p rest hpe
    simp only [execOkB, hpe, Bool.and_eq_true] at h
    refine ⟨h.1, ?_⟩
    cases hok : w.hub.handle false p.chain (.batchExecuted p.tok evn p.nonce ht tx fp payer) with
    | ok h' => exact ⟨h', rfl⟩
    | error e => rw [hok] at h; exact absurd h.2 (by simp)
  | _ => trivial

theorem runOk_of_B {dn : String} {ops : List WOp} {w : World} (h : runOkB dn w ops = true) : RunOk dn w ops := by
  induction ops generalizing w with
  | nil => trivial
  | cons op ops ih =>
    simp only [runOkB, Bool.and_eq_true] at h
    exact ⟨execOk_of_B h.1.1, bounded_of_B h.1.2, ih h.2⟩

/-! ### The same with H1(a) replaced by the clock condition -/

/-- H1(b) alone: the handler of the oldest pending execution succeeds as a whole. -/
def HandlerOk (w : World) : WOp → Prop
  | .applyExec evNonce height tx feePaid payer =>
    ∀ p rest, w.pendingExecs = p :: rest →
      ∃ h', w.hub.handle false p.chain (.batchExecuted p.tok evNonce p.nonce height tx feePaid payer) = .ok h'
  | _ => True

/-- H1(b) + the clock condition + H2 along a history. -/
def RunOkC (dn : String) : World → List WOp → Prop
  | _, [] => True
  | w, op :: ops =>
    HandlerOk w op ∧ NoTimeout w op ∧ (wstep dn w op).hub.Bounded ∧ RunOkC dn (wstep dn w op) ops

structure WInvC (dn : String) (w : World) : Prop where
  inv : WInv dn w
  stored : Stored w
  ord : QOrd w.pendingExecs

theorem execOk_of_stored {dn : String} {w : World} {op : WOp} (hi : WInv dn w) (hs : Stored w)
    (hh : HandlerOk w op) : ExecOk w op := by
  cases op with
  | applyExec evn ht tx fp payer =>
    intro p rest hpe
    have hm : p ∈ w.pendingExecs := by rw [hpe]; exact List.mem_cons_self
    exact ⟨findBatch_isSome_of_mem (hi.pend p hm) (hs p hm), hh p rest hpe⟩
  | _ => trivial

def handlerOkB (w : World) : WOp → Bool
  | .applyExec evNonce height tx feePaid payer =>
    match w.pendingExecs with
    | [] => true
    | p :: _ =>
      match w.hub.handle false p.chain (.batchExecuted p.tok evNonce p.nonce height tx feePaid payer) with
      | .ok _ => true
      | .error _ => false
  | _ => true

def noTimeoutB (w : World) : WOp → Bool
  | .hubOp _ => w.pendingExecs.all fun p => !decide (p.batch.timeout < (w.hub.chain p.chain).obsExtHeight)
  | _ => true

def runOkCB (dn : String) : World → List WOp → Bool
  | _, [] => true
  | w, op :: ops =>
    handlerOkB w op && noTimeoutB w op && boundedB (wstep dn w op).hub && runOkCB dn (wstep dn w op) ops

theorem handlerOk_of_B {w : World} {op : WOp} (h : handlerOkB w op = true) : HandlerOk w op := by
  cases op with
  | applyExec evn ht tx fp payer =>
    intro p rest hpe
    simp only [handlerOkB, hpe] at h
    cases hok : w.hub.handle false p.chain (.batchExecuted p.tok evn p.nonce ht tx fp payer) with
    | ok h' => exact ⟨h', rfl⟩
    | error e => rw [hok] at h; exact absurd h (by simp)
  | _ => trivial

theorem noTimeout_of_B {w : World} {op : WOp} (h : noTimeoutB w op = true) : NoTimeout w op := by
  cases op with
  | hubOp o =>
    intro p hp
    simp only [noTimeoutB, List.all_eq_true] at h
    have := h p hp
    unfold TimedOut
    simpa using this
  | _ => trivial

theorem runOkC_of_B {dn : String} {ops : List WOp} {w : World} (h : runOkCB dn w ops = true) : RunOkC dn w ops := by
  induction ops generalizing w with
  | nil => trivial
  | cons op ops ih =>
    simp only [runOkCB, Bool.and_eq_true] at h
    exact ⟨handlerOk_of_B h.1.1.1, noTimeout_of_B h.1.1.2, bounded_of_B h.1.2, ih h.2⟩

end Mhub2.C01
