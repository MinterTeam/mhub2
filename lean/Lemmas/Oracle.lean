/-
  The oracle module (C18).  The weighted median is the middle of `medianList`, the sorted list in which
  every reported value appears `weight` times; `OracleSt.WF` says one vote and one stored claim per
  validator; a run of claim messages within one epoch (`priceClaimRun`) leaves the latest counted report
  of each validator, counted once.
-/
import Mhub2.Oracle
import Lemmas.Assoc
import Lemmas.Fees
namespace Mhub2


@[simp] theorem expandWeighted_nil : expandWeighted [] = [] := rfl

theorem expandWeighted_cons (v : Int) (w : Nat) (l : List (Int × Nat)) :
    expandWeighted ((v, w) :: l) = List.replicate w v ++ expandWeighted l :=
  List.flatMap_cons

@[simp] theorem totalWeight_nil : totalWeight [] = 0 := rfl

theorem totalWeight_cons (v : Int) (w : Nat) (l : List (Int × Nat)) :
    totalWeight ((v, w) :: l) = w + totalWeight l :=
  sumNats_cons w _

theorem length_expandWeighted (l : List (Int × Nat)) :
    (expandWeighted l).length = totalWeight l := by
  induction l with
  | nil => rfl
  | cons p t ih =>
    obtain ⟨v, w⟩ := p
    rw [expandWeighted_cons, totalWeight_cons, List.length_append, List.length_replicate, ih]

theorem weightedNth_eq_getElem? (l : List (Int × Nat)) (k : Nat) :
    weightedNth l k = (expandWeighted l)[k]? := by
  induction l generalizing k with
  | nil => rfl
  | cons p t ih =>
    obtain ⟨v, w⟩ := p
    rw [expandWeighted_cons, weightedNth]
    split
    · rename_i hk
      rw [List.getElem?_append_left (by rwa [List.length_replicate]), List.getElem?_replicate, if_pos hk]
    · rename_i hk
      rw [List.getElem?_append_right (by rw [List.length_replicate]; exact Nat.le_of_not_lt hk),
        List.length_replicate]
      exact ih _

theorem mem_expandWeighted {l : List (Int × Nat)} {x : Int} :
    x ∈ expandWeighted l ↔ ∃ p ∈ l, p.2 ≠ 0 ∧ p.1 = x := by
  simp only [expandWeighted, List.mem_flatMap, List.mem_replicate, eq_comm (a := x)]

theorem le_totalWeight_of_mem {l : List (Int × Nat)} {p : Int × Nat} (h : p ∈ l) : p.2 ≤ totalWeight l := by
  induction l with
  | nil => cases h
  | cons q t ih =>
    obtain ⟨v, w⟩ := q
    rw [totalWeight_cons]
    rcases List.mem_cons.mp h with h | h
    · subst h; exact Nat.le_add_right _ _
    · exact Nat.le_trans (ih h) (Nat.le_add_left _ _)

theorem count_expandWeighted (l : List (Int × Nat)) (x : Int) :
    (expandWeighted l).count x = sumNats ((l.filter fun p => p.1 == x).map (·.2)) := by
  induction l with
  | nil => rfl
  | cons p t ih =>
    obtain ⟨v, w⟩ := p
    rw [expandWeighted_cons, List.count_append, List.count_replicate, ih, List.filter_cons]
    split
    · rw [List.map_cons, sumNats_cons]
    · rw [Nat.zero_add]

theorem sortByValue_perm (l : List (Int × Nat)) : (sortByValue l).Perm l :=
  List.mergeSort_perm l _

theorem sortByValue_sorted (l : List (Int × Nat)) :
    (sortByValue l).Pairwise (fun a b => a.1 ≤ b.1) := by
  have h := List.pairwise_mergeSort (le := fun (a b : Int × Nat) => decide (a.1 ≤ b.1))
    (by intro a b c h1 h2; simp only [decide_eq_true_eq] at *; omega)
    (by intro a b; simp only [Bool.or_eq_true, decide_eq_true_eq]; omega) l
  exact h.imp of_decide_eq_true

theorem sortByValue_of_sorted {l : List (Int × Nat)} (h : l.Pairwise fun a b => a.1 ≤ b.1) :
    sortByValue l = l :=
  List.mergeSort_of_pairwise (h.imp decide_eq_true)

theorem expandWeighted_sorted {l : List (Int × Nat)} (hs : l.Pairwise (fun a b => a.1 ≤ b.1)) :
    (expandWeighted l).Pairwise (· ≤ ·) := by
  induction l with
  | nil => exact List.Pairwise.nil
  | cons p t ih =>
    obtain ⟨v, w⟩ := p
    obtain ⟨hp, ht⟩ := List.pairwise_cons.mp hs
    rw [expandWeighted_cons, List.pairwise_append]
    refine ⟨List.pairwise_replicate.mpr (Or.inr (Int.le_refl v)), ih ht, ?_⟩
    intro a ha b hb
    obtain ⟨_, rfl⟩ := List.mem_replicate.mp ha
    obtain ⟨q, hq, _, rfl⟩ := mem_expandWeighted.mp hb
    exact hp q hq

theorem expandWeighted_perm {l l' : List (Int × Nat)} (h : l.Perm l') :
    (expandWeighted l).Perm (expandWeighted l') :=
  List.Perm.flatMap_right _ h

abbrev medianList (l : List (Int × Nat)) : List Int := expandWeighted (sortByValue l)

theorem medianList_sorted (l : List (Int × Nat)) : (medianList l).Pairwise (· ≤ ·) :=
  expandWeighted_sorted (sortByValue_sorted l)

theorem medianList_perm (l : List (Int × Nat)) : (medianList l).Perm (expandWeighted l) :=
  expandWeighted_perm (sortByValue_perm l)

theorem medianList_length (l : List (Int × Nat)) : (medianList l).length = totalWeight l := by
  rw [(medianList_perm l).length_eq, length_expandWeighted]

theorem count_medianList (l : List (Int × Nat)) (x : Int) :
    (medianList l).count x = sumNats ((l.filter fun p => p.1 == x).map (·.2)) := by
  rw [(medianList_perm l).count_eq, count_expandWeighted]

theorem weightedMedian_eq (l : List (Int × Nat)) :
    weightedMedian l =
      (let e := medianList l
       let W := e.length
       if W = 0 then none
       else if W % 2 = 0 then
         match e[W / 2]?, e[W / 2 - 1]? with
         | some a, some b => some (Int.tdiv (a + b) 2)
         | _, _ => none
       else e[W / 2]?) := by
  unfold weightedMedian
  simp only [weightedNth_eq_getElem?, ← length_expandWeighted, beq_iff_eq]
  rfl

theorem weightedMedian_zero {l : List (Int × Nat)} (h : (medianList l).length = 0) :
    weightedMedian l = none := by
  rw [weightedMedian_eq]; exact if_pos h

theorem weightedMedian_odd {l : List (Int × Nat)} (h : (medianList l).length % 2 = 1) :
    weightedMedian l = (medianList l)[(medianList l).length / 2]? := by
  rw [weightedMedian_eq]; exact (if_neg (by omega)).trans (if_neg (by omega))

theorem weightedMedian_even {l : List (Int × Nat)} (h : (medianList l).length % 2 = 0)
    (hpos : 0 < (medianList l).length) :
    weightedMedian l = some (Int.tdiv
      ((medianList l)[(medianList l).length / 2]'(by omega) +
       (medianList l)[(medianList l).length / 2 - 1]'(by omega)) 2) := by
  rw [weightedMedian_eq]
  refine (if_neg (by omega)).trans ((if_pos h).trans ?_)
  rw [List.getElem?_eq_getElem (by omega), List.getElem?_eq_getElem (by omega)]

theorem tdiv_two_between {a b : Int} (h : b ≤ a) : b ≤ Int.tdiv (a + b) 2 ∧ Int.tdiv (a + b) 2 ≤ a := by
  rw [Int.tdiv_eq_ediv]
  split
  · omega
  · rw [show Int.sign 2 = 1 from rfl]; omega

/-- Whatever arrangement `sort.Slice` (not stable) leaves the expanded values in, as long as it is
    sorted it is the one list `medianList`. -/
theorem sorted_expansion_unique {l : List (Int × Nat)} {e : List Int}
    (hp : e.Perm (expandWeighted l)) (hs : e.Pairwise (· ≤ ·)) : e = medianList l :=
  List.Perm.eq_of_pairwise (le := fun (a b : Int) => a ≤ b) (fun _ _ _ _ h1 h2 => Int.le_antisymm h1 h2)
    hs (medianList_sorted l) (hp.trans (medianList_perm l).symm)

theorem weightedMedian_congr {l l' : List (Int × Nat)} (h : (expandWeighted l).Perm (expandWeighted l')) :
    weightedMedian l = weightedMedian l' := by
  rw [weightedMedian_eq, weightedMedian_eq,
    sorted_expansion_unique ((medianList_perm l).trans h) (medianList_sorted l)]

theorem sorted_getElem_le {e : List Int} (hs : e.Pairwise (· ≤ ·)) {i j : Nat} (hij : i ≤ j)
    (hj : j < e.length) : e[i]'(by omega) ≤ e[j] := by
  rcases Nat.eq_or_lt_of_le hij with h | h
  · subst h; exact Int.le_refl _
  · exact (List.pairwise_iff_getElem.mp hs) i j (by omega) hj h


theorem guard_ok_iff {α : Type} {c : Prop} [Decidable c] {e : Err} {k : M α} {x : α} :
    (if c then .error e else k) = .ok x ↔ ¬ c ∧ k = .ok x := by
  split
  · exact ⟨fun h => (nomatch h), fun h => absurd ‹c› h.1⟩
  · exact ⟨fun h => ⟨‹¬ c›, h⟩, fun h => h.2⟩

theorem ite_ok_iff {α : Type} {c : Prop} [Decidable c] {a x : α} {k : M α} :
    (if c then .ok a else k) = .ok x ↔ (c ∧ x = a) ∨ (¬ c ∧ k = .ok x) := by
  split
  · exact ⟨fun h => Or.inl ⟨‹c›, (Except.ok.inj h).symm⟩,
      fun h => h.elim (fun h => h.2 ▸ rfl) (fun h => absurd ‹c› h.1)⟩
  · exact ⟨fun h => Or.inr ⟨‹¬ c›, h⟩, fun h => h.elim (fun h => absurd h.1 ‹¬ c›) (·.2)⟩

theorem ok_eq_ok_iff {α : Type} {a x : α} : (.ok a : M α) = .ok x ↔ x = a :=
  ⟨fun h => (Except.ok.inj h).symm, fun h => h ▸ rfl⟩

theorem oraclePriceClaim_eq (h : Hub) (o : OracleSt) (v : String) (e : Nat) (ps : List (String × Int)) :
    oraclePriceClaim h o v e ps =
      if e == 0 then .error (.fail "nonce == 0")
      else if (ps.map (·.1)).eraseDups.length != ps.length then .error (.fail "duplicated price")
      else if (h.validator? v).isNone then .error (.fail "unknown validator")
      else if o.epoch != e then .ok o
      else if !(requiredPriceNames h).all (fun n => ps.any fun p => p.1 == n && p.2 > 0) then
        .error (.fail "required price not found or malformed")
      else .ok { o with priceClaims := alSet o.priceClaims v ps, priceVotes := addVoteOnce o.priceVotes v } := by
  unfold oraclePriceClaim
  simp only [bind, Except.bind, pure, Except.pure, failM]

theorem oracleHoldersClaim_eq (h : Hub) (o : OracleSt) (v : String) (e : Nat) (hs : List (String × Int)) :
    oracleHoldersClaim h o v e hs =
      if e == 0 then .error (.fail "nonce == 0")
      else if !lowerNoDup (hs.map (·.1)) then .error (.fail "duplicated address")
      else if (h.validator? v).isNone then .error (.fail "unknown validator")
      else if o.epoch != e then .ok o
      else .ok { o with holderClaims := alSet o.holderClaims v hs, holderVotes := addVoteOnce o.holderVotes v } := by
  unfold oracleHoldersClaim
  simp only [bind, Except.bind, pure, Except.pure, failM]

/-- A price claim is accepted iff it passes `ValidateBasic` and comes from a known validator; it
    has an effect iff it is for the current epoch and prices every required name. -/
theorem oraclePriceClaim_ok_iff {h : Hub} {o o' : OracleSt} {v : String} {e : Nat} {ps : List (String × Int)} :
    oraclePriceClaim h o v e ps = .ok o' ↔
    e ≠ 0 ∧ (ps.map (·.1)).eraseDups.length = ps.length ∧ (h.validator? v).isSome ∧
    ((o.epoch ≠ e ∧ o' = o) ∨
     (o.epoch = e ∧ (∀ n ∈ requiredPriceNames h, ∃ p ∈ ps, p.1 = n ∧ p.2 > 0) ∧
      o' = { o with priceClaims := alSet o.priceClaims v ps, priceVotes := addVoteOnce o.priceVotes v })) := by
  simp only [oraclePriceClaim_eq, guard_ok_iff, ite_ok_iff, ok_eq_ok_iff, beq_iff_eq, bne_iff_ne, ne_eq,
    Decidable.not_not, Bool.not_eq_true', Bool.not_eq_true, Bool.not_eq_false, List.all_eq_true, List.any_eq_true,
    Bool.and_eq_true, decide_eq_true_eq, Option.isNone_eq_false_iff]

theorem oracleHoldersClaim_ok_iff {h : Hub} {o o' : OracleSt} {v : String} {e : Nat} {hs : List (String × Int)} :
    oracleHoldersClaim h o v e hs = .ok o' ↔
    e ≠ 0 ∧ lowerNoDup (hs.map (·.1)) = true ∧ (h.validator? v).isSome ∧
    ((o.epoch ≠ e ∧ o' = o) ∨
     (o.epoch = e ∧
      o' = { o with holderClaims := alSet o.holderClaims v hs, holderVotes := addVoteOnce o.holderVotes v })) := by
  simp only [oracleHoldersClaim_eq, guard_ok_iff, ite_ok_iff, ok_eq_ok_iff, beq_iff_eq, bne_iff_ne, ne_eq,
    Decidable.not_not, Bool.not_eq_true', Bool.not_eq_true, Bool.not_eq_false, Option.isNone_eq_false_iff]


theorem mem_addVoteOnce {l : List String} {v x : String} :
    x ∈ addVoteOnce l v ↔ x ∈ l ∨ x = v := by
  unfold addVoteOnce
  split
  · rename_i hc
    exact ⟨Or.inl, fun h => h.elim id fun e => e ▸ List.contains_iff_mem.mp hc⟩
  · rw [List.mem_append, List.mem_singleton]

theorem addVoteOnce_nodup {l : List String} (v : String) (h : l.Nodup) : (addVoteOnce l v).Nodup := by
  unfold addVoteOnce
  split
  · exact h
  · rename_i hc
    exact List.nodup_append.mpr ⟨h, List.pairwise_singleton _ v, fun a ha b hb hab =>
      hc (List.contains_iff_mem.mpr (List.mem_singleton.mp hb ▸ hab ▸ ha))⟩

theorem addVoteOnce_of_mem {l : List String} {v : String} (h : v ∈ l) : addVoteOnce l v = l :=
  if_pos (List.contains_iff_mem.mpr h)

theorem alGet_alSet_isSome {κ ν : Type} [BEq κ] [LawfulBEq κ] {l : List (κ × ν)} {k k2 : κ} (v : ν)
    (h : (alGet l k2).isSome) :
    (alGet (alSet l k v) k2).isSome := by
  by_cases hk : k = k2
  · subst hk; rw [alGet_alSet_same]; rfl
  · rw [alGet_alSet_other _ _ _ _ hk]; exact h

def recordClaim {β : Type} (s : List (String × β) × List String) (m : String × β) :
    List (String × β) × List String :=
  (alSet s.1 m.1 m.2, addVoteOnce s.2 m.1)

theorem recordClaim_spec {β : Type} (s : List (String × β) × List String) (v : String) (x : β) :
    alGet (recordClaim s (v, x)).1 v = some x ∧ v ∈ (recordClaim s (v, x)).2 ∧
    (v ∈ s.2 → (recordClaim s (v, x)).2 = s.2) ∧
    (∀ w ∈ s.2, w ∈ (recordClaim s (v, x)).2) ∧
    (∀ w, w ≠ v → alGet (recordClaim s (v, x)).1 w = alGet s.1 w ∧
                   (w ∈ (recordClaim s (v, x)).2 ↔ w ∈ s.2)) :=
  ⟨alGet_alSet_same _ _ _, mem_addVoteOnce.mpr (Or.inr rfl), addVoteOnce_of_mem,
    fun _ hw => mem_addVoteOnce.mpr (Or.inl hw),
    fun _ hw => ⟨alGet_alSet_other _ _ _ _ (Ne.symm hw),
      ⟨fun hm => (mem_addVoteOnce.mp hm).elim id (absurd · hw), fun hm => mem_addVoteOnce.mpr (Or.inl hm)⟩⟩⟩

theorem recordClaim_wf {β : Type} {s : List (String × β) × List String} (m : String × β)
    (h1 : s.2.Nodup) (h2 : (s.1.map (·.1)).Nodup) (h3 : ∀ v ∈ s.2, (alGet s.1 v).isSome) :
    (recordClaim s m).2.Nodup ∧ ((recordClaim s m).1.map (·.1)).Nodup ∧
    ∀ v ∈ (recordClaim s m).2, (alGet (recordClaim s m).1 v).isSome := by
  refine ⟨addVoteOnce_nodup _ h1, alSet_nodup_keys _ _ h2, fun x hx => ?_⟩
  rcases mem_addVoteOnce.mp hx with hx | rfl
  · exact alGet_alSet_isSome _ (h3 x hx)
  · show (alGet (alSet s.1 m.1 m.2) m.1).isSome
    rw [alGet_alSet_same]; rfl


/-- Each validator appears at most once in each vote list, each claim store holds at most one
    (the latest) claim per validator, and every vote has its claim stored. -/
def OracleSt.WF (o : OracleSt) : Prop :=
  o.priceVotes.Nodup ∧ o.holderVotes.Nodup ∧
  (o.priceClaims.map (·.1)).Nodup ∧ (o.holderClaims.map (·.1)).Nodup ∧
  (∀ v ∈ o.priceVotes, (alGet o.priceClaims v).isSome) ∧
  (∀ v ∈ o.holderVotes, (alGet o.holderClaims v).isSome)

theorem OracleSt.WF_init : OracleSt.WF {} :=
  ⟨List.nodup_nil, List.nodup_nil, List.nodup_nil, List.nodup_nil, fun _ h => absurd h List.not_mem_nil,
    fun _ h => absurd h List.not_mem_nil⟩

theorem OracleSt.WF_priceClaim {h : Hub} {o o' : OracleSt} {v : String} {e : Nat} {ps : List (String × Int)}
    (hwf : o.WF) (hok : oraclePriceClaim h o v e ps = .ok o') : o'.WF := by
  obtain ⟨_, _, _, ⟨_, rfl⟩ | ⟨_, _, rfl⟩⟩ := oraclePriceClaim_ok_iff.mp hok
  · exact hwf
  · obtain ⟨h1, h2, h3, h4, h5, h6⟩ := hwf
    obtain ⟨r1, r3, r5⟩ := recordClaim_wf (s := (o.priceClaims, o.priceVotes)) (v, ps) h1 h3 h5
    exact ⟨r1, h2, r3, h4, r5, h6⟩

theorem OracleSt.WF_holdersClaim {h : Hub} {o o' : OracleSt} {v : String} {e : Nat} {hs : List (String × Int)}
    (hwf : o.WF) (hok : oracleHoldersClaim h o v e hs = .ok o') : o'.WF := by
  obtain ⟨_, _, _, ⟨_, rfl⟩ | ⟨_, rfl⟩⟩ := oracleHoldersClaim_ok_iff.mp hok
  · exact hwf
  · obtain ⟨h1, h2, h3, h4, h5, h6⟩ := hwf
    obtain ⟨r2, r4, r6⟩ := recordClaim_wf (s := (o.holderClaims, o.holderVotes)) (v, hs) h2 h4 h6
    exact ⟨h1, r2, h3, r4, h5, r6⟩


/-- The price half of `oracleProcessEpoch`. -/
def oraclePricePhase (h : Hub) (o : OracleSt) (num add den : Int) : M OracleSt :=
  if o.priceVotes.isEmpty then pure o else do
    let o' ← (if oracleReached h num add den o.priceVotes then do
        let powers ← h.normalizedPowers
        pure { o with prices := computePrices powers o.priceVotes o.priceClaims }
      else pure o)
    pure { o' with priceClaims := [], priceVotes := [] }

/-- The holders half of `oracleProcessEpoch`. -/
def oracleHolderPhase (h : Hub) (o : OracleSt) (num add den : Int) : M OracleSt :=
  if o.holderVotes.isEmpty then pure o else do
    let o' ← (if oracleReached h num add den o.holderVotes then do
        let powers ← h.normalizedPowers
        match computeHolders powers o.holderVotes o.holderClaims with
        | some l => pure { o with holders := l }
        | none => pure o
      else pure o)
    pure { o' with holderClaims := [], holderVotes := [] }

theorem oracleProcessEpoch_ok {h : Hub} {o o' : OracleSt} {n a d : Int}
    (hok : oracleProcessEpoch h o n a d = .ok o') :
    ∃ o1, oraclePricePhase h { o with epoch := o.epoch + 1 } n a d = .ok o1 ∧
      oracleHolderPhase h o1 n a d = .ok o' := by
  have e : oracleProcessEpoch h o n a d =
      (oraclePricePhase h { o with epoch := o.epoch + 1 } n a d >>= fun o1 =>
        oracleHolderPhase h o1 n a d) := rfl
  rw [e] at hok
  cases h1 : oraclePricePhase h { o with epoch := o.epoch + 1 } n a d with
  | error _ => rw [h1] at hok; cases hok
  | ok o1 => rw [h1] at hok; exact ⟨o1, rfl, hok⟩

/-- The shape shared by the two phases: nothing without votes; otherwise the update `upd` runs on
    the normalised powers iff the threshold is reached, and `clear` is applied in any case. -/
theorem phase_ok {σ π : Type} {empty reached : Bool} {np : M π} {upd : π → M σ} {clear : σ → σ} {o o' : σ}
    (hok : (if empty then pure o else
      (if reached then np >>= upd else pure o) >>= fun x => pure (clear x)) = .ok o') :
    (empty = true ∧ o' = o) ∨
    (empty = false ∧ ((reached = false ∧ o' = clear o) ∨
      (reached = true ∧ ∃ pw x, np = .ok pw ∧ upd pw = .ok x ∧ o' = clear x))) := by
  cases empty
  · refine Or.inr ⟨rfl, ?_⟩
    cases reached
    · exact Or.inl ⟨rfl, (Except.ok.inj hok).symm⟩
    · refine Or.inr ⟨rfl, ?_⟩
      cases np with
      | error _ => cases hok
      | ok pw =>
        have hok' : (upd pw >>= fun x => pure (clear x)) = .ok o' := hok
        cases hu : upd pw with
        | error _ => rw [hu] at hok'; cases hok'
        | ok x => rw [hu] at hok'; exact ⟨pw, x, rfl, hu, (Except.ok.inj hok').symm⟩
  · exact Or.inl ⟨rfl, (Except.ok.inj hok).symm⟩

theorem oraclePricePhase_ok {h : Hub} {o o' : OracleSt} {n a d : Int}
    (hok : oraclePricePhase h o n a d = .ok o') :
    (o.priceVotes = [] ∧ o' = o) ∨
    (o.priceVotes ≠ [] ∧ ∃ pr, o' = { o with prices := pr, priceClaims := [], priceVotes := [] } ∧
      ((oracleReached h n a d o.priceVotes = false ∧ pr = o.prices) ∨
       (oracleReached h n a d o.priceVotes = true ∧ ∃ pw, h.normalizedPowers = .ok pw ∧
          pr = computePrices pw o.priceVotes o.priceClaims))) := by
  unfold oraclePricePhase at hok
  rcases phase_ok (σ := OracleSt) (upd := fun pw => pure { o with prices := computePrices pw o.priceVotes o.priceClaims })
    (clear := fun x => { x with priceClaims := [], priceVotes := [] }) hok with
    ⟨he, rfl⟩ | ⟨he, ⟨hr, rfl⟩ | ⟨hr, pw, _, hpw, hx, rfl⟩⟩
  · exact Or.inl ⟨List.isEmpty_iff.mp he, rfl⟩
  · exact Or.inr ⟨List.isEmpty_eq_false_iff.mp he, o.prices, rfl, Or.inl ⟨hr, rfl⟩⟩
  · obtain rfl := Except.ok.inj hx
    exact Or.inr ⟨List.isEmpty_eq_false_iff.mp he, computePrices pw o.priceVotes o.priceClaims, rfl,
      Or.inr ⟨hr, pw, hpw, rfl⟩⟩

theorem oracleHolderPhase_ok {h : Hub} {o o' : OracleSt} {n a d : Int}
    (hok : oracleHolderPhase h o n a d = .ok o') :
    (o.holderVotes = [] ∧ o' = o) ∨
    (o.holderVotes ≠ [] ∧ ∃ hl, o' = { o with holders := hl, holderClaims := [], holderVotes := [] } ∧
      ((oracleReached h n a d o.holderVotes = false ∧ hl = o.holders) ∨
       (oracleReached h n a d o.holderVotes = true ∧ ∃ pw, h.normalizedPowers = .ok pw ∧
          ((computeHolders pw o.holderVotes o.holderClaims = none ∧ hl = o.holders) ∨
           computeHolders pw o.holderVotes o.holderClaims = some hl)))) := by
  unfold oracleHolderPhase at hok
  rcases phase_ok (upd := fun pw => match computeHolders pw o.holderVotes o.holderClaims with
      | some l => pure { o with holders := l }
      | none => pure o)
    (clear := fun x => { x with holderClaims := [], holderVotes := [] }) hok with
    ⟨he, rfl⟩ | ⟨he, ⟨hr, rfl⟩ | ⟨hr, pw, _, hpw, hx, rfl⟩⟩
  · exact Or.inl ⟨List.isEmpty_iff.mp he, rfl⟩
  · exact Or.inr ⟨List.isEmpty_eq_false_iff.mp he, _, rfl, Or.inl ⟨hr, rfl⟩⟩
  · refine Or.inr ⟨List.isEmpty_eq_false_iff.mp he, ?_⟩
    cases hch : computeHolders pw o.holderVotes o.holderClaims with
    | none => rw [hch] at hx; cases hx; exact ⟨_, rfl, Or.inr ⟨hr, pw, hpw, Or.inl ⟨hch, rfl⟩⟩⟩
    | some l => rw [hch] at hx; cases hx; exact ⟨_, rfl, Or.inr ⟨hr, pw, hpw, Or.inr hch⟩⟩

theorem OracleSt.WF_processEpoch {h : Hub} {o o' : OracleSt} {n a d : Int}
    (hwf : o.WF) (hok : oracleProcessEpoch h o n a d = .ok o') : o'.WF := by
  obtain ⟨o1, h1, h2⟩ := oracleProcessEpoch_ok hok
  have hwf1 : o1.WF := by
    rcases oraclePricePhase_ok h1 with ⟨_, rfl⟩ | ⟨_, _, rfl, _⟩
    · exact hwf
    · exact ⟨List.nodup_nil, hwf.2.1, List.nodup_nil, hwf.2.2.2.1, fun _ hv => absurd hv List.not_mem_nil,
        hwf.2.2.2.2.2⟩
  rcases oracleHolderPhase_ok h2 with ⟨_, rfl⟩ | ⟨_, _, rfl, _⟩
  · exact hwf1
  · exact ⟨hwf1.1, List.nodup_nil, hwf1.2.2.1, List.nodup_nil, hwf1.2.2.2.2.1,
      fun _ hv => absurd hv List.not_mem_nil⟩

theorem oracleEndBlock_cases {h : Hub} {o o' : OracleSt} {n a d : Int}
    (hok : oracleEndBlock h o n a d = .ok o') :
    (h.height % 5 ≠ 0 ∧ o' = o) ∨ (h.height % 5 = 0 ∧ oracleProcessEpoch h o n a d = .ok o') := by
  unfold oracleEndBlock at hok
  split at hok
  · rename_i hh; exact Or.inr ⟨beq_iff_eq.mp hh, hok⟩
  · rename_i hh; exact Or.inl ⟨fun e => hh (beq_iff_eq.mpr e), (Except.ok.inj hok).symm⟩

theorem OracleSt.WF_endBlock {h : Hub} {o o' : OracleSt} {n a d : Int}
    (hwf : o.WF) (hok : oracleEndBlock h o n a d = .ok o') : o'.WF := by
  rcases oracleEndBlock_cases hok with ⟨_, rfl⟩ | ⟨_, hp⟩
  · exact hwf
  · exact OracleSt.WF_processEpoch hwf hp


theorem processEpoch_frame {h : Hub} {o o' : OracleSt} {n a d : Int}
    (hok : oracleProcessEpoch h o n a d = .ok o') :
    o'.epoch = o.epoch + 1 ∧ o'.priceVotes = [] ∧ o'.holderVotes = [] := by
  obtain ⟨o1, h1, h2⟩ := oracleProcessEpoch_ok hok
  have e1 : o1.epoch = o.epoch + 1 ∧ o1.priceVotes = [] := by
    rcases oraclePricePhase_ok h1 with ⟨he, rfl⟩ | ⟨_, _, rfl, _⟩
    · exact ⟨rfl, he⟩
    · exact ⟨rfl, rfl⟩
  rcases oracleHolderPhase_ok h2 with ⟨he, rfl⟩ | ⟨_, _, rfl, _⟩
  · exact ⟨e1.1, e1.2, he⟩
  · exact ⟨e1.1, e1.2, rfl⟩

theorem processEpoch_prices {h : Hub} {o o' : OracleSt} {n a d : Int}
    (hok : oracleProcessEpoch h o n a d = .ok o') :
    (o'.prices = o.prices ∧ (o.priceVotes = [] ∨ oracleReached h n a d o.priceVotes = false)) ∨
    (o.priceVotes ≠ [] ∧ oracleReached h n a d o.priceVotes = true ∧
      ∃ pw, h.normalizedPowers = .ok pw ∧ o'.prices = computePrices pw o.priceVotes o.priceClaims) := by
  obtain ⟨o1, h1, h2⟩ := oracleProcessEpoch_ok hok
  have hp : o'.prices = o1.prices := by
    rcases oracleHolderPhase_ok h2 with ⟨_, rfl⟩ | ⟨_, _, rfl, _⟩ <;> rfl
  rw [hp]
  rcases oraclePricePhase_ok h1 with ⟨he, rfl⟩ | ⟨hne, _, rfl, ⟨hr, rfl⟩ | ⟨hr, pw, hpw, rfl⟩⟩
  · exact Or.inl ⟨rfl, Or.inl he⟩
  · exact Or.inl ⟨rfl, Or.inr hr⟩
  · exact Or.inr ⟨hne, hr, pw, hpw, rfl⟩

theorem processEpoch_prices_reached {h : Hub} {o o' : OracleSt} {n a d : Int}
    (hok : oracleProcessEpoch h o n a d = .ok o') (hne : o.priceVotes ≠ [])
    (hr : oracleReached h n a d o.priceVotes = true) :
    ∃ pw, h.normalizedPowers = .ok pw ∧ o'.prices = computePrices pw o.priceVotes o.priceClaims := by
  rcases processEpoch_prices hok with ⟨_, he | hf⟩ | ⟨_, _, hpw⟩
  · exact absurd he hne
  · rw [hr] at hf; cases hf
  · exact hpw

theorem processEpoch_holders {h : Hub} {o o' : OracleSt} {n a d : Int}
    (hok : oracleProcessEpoch h o n a d = .ok o') :
    o'.holders = o.holders ∨
    (o.holderVotes ≠ [] ∧ oracleReached h n a d o.holderVotes = true ∧
      ∃ pw, h.normalizedPowers = .ok pw ∧
        computeHolders pw o.holderVotes o.holderClaims = some o'.holders) := by
  obtain ⟨o1, h1, h2⟩ := oracleProcessEpoch_ok hok
  have e1 : o1.holders = o.holders ∧ o1.holderVotes = o.holderVotes ∧ o1.holderClaims = o.holderClaims := by
    rcases oraclePricePhase_ok h1 with ⟨_, rfl⟩ | ⟨_, _, rfl, _⟩ <;> exact ⟨rfl, rfl, rfl⟩
  rw [← e1.1, ← e1.2.1, ← e1.2.2]
  rcases oracleHolderPhase_ok h2 with ⟨_, rfl⟩ | ⟨hne, _, rfl, ⟨_, rfl⟩ | ⟨hr, pw, hpw, ⟨_, rfl⟩ | hch⟩⟩
  · exact Or.inl rfl
  · exact Or.inl rfl
  · exact Or.inl rfl
  · exact Or.inr ⟨hne, hr, pw, hpw, hch⟩


/-- Powers are naturals, so the running sum only grows: reaching the threshold at some prefix
    means the whole vote list carries at least the required power. -/
theorem reachesThreshold_sum {power : String → Nat} {req : Int} {votes : List String} {acc : Int}
    (h : reachesThreshold power req votes acc = true) :
    req ≤ acc + ((sumNats (votes.map power) : Nat) : Int) := by
  induction votes generalizing acc with
  | nil => cases h
  | cons v vs ih =>
    rw [reachesThreshold] at h
    rw [List.map_cons, sumNats_cons]
    split at h
    · omega
    · have := ih h
      omega

theorem reachesThreshold_ne_nil {power : String → Nat} {req : Int} {votes : List String} {acc : Int}
    (h : reachesThreshold power req votes acc = true) : votes ≠ [] := by
  intro e; subst e; cases h

/-- The required power is the ceiling of 66 % of the total. -/
theorem threshold_ceil (T : Nat) :
    66 * (T : Int) ≤ 100 * oracleThreshold 66 99 100 T ∧
    100 * oracleThreshold 66 99 100 T < 66 * (T : Int) + 100 := by
  unfold oracleThreshold
  rw [Int.tdiv_eq_ediv_of_nonneg (by omega)]
  omega

theorem oracleReached_quorum {h : Hub} {votes : List String}
    (hr : oracleReached h 66 99 100 votes = true) :
    66 * h.totalPower ≤ 100 * sumNats (votes.map h.lastPower) := by
  have h1 := reachesThreshold_sum hr
  have h2 := (threshold_ceil h.totalPower).1
  omega


theorem twoThirdsU16 : maxU16 * 2 / 3 = 43690 := by decide

def holdersGroup (votes : List String) (claims : List (String × List (String × Int))) (c : List String) :
    List (String × List (String × Int)) :=
  (votes.map fun v => (v, (alGet claims v).getD [])).filter fun p => holdersCanon p.2 == c

theorem mem_holdersGroup {votes : List String} {claims : List (String × List (String × Int))}
    {c : List String} {w : String} :
    w ∈ (holdersGroup votes claims c).map (·.1) ↔
      w ∈ votes ∧ holdersCanon ((alGet claims w).getD []) = c := by
  simp only [holdersGroup, List.mem_map, List.mem_filter, beq_iff_eq]
  constructor
  · rintro ⟨_, ⟨⟨u, hu, rfl⟩, hc⟩, rfl⟩
    exact ⟨hu, hc⟩
  · rintro ⟨hw, hc⟩
    exact ⟨_, ⟨⟨w, hw, rfl⟩, hc⟩, rfl⟩

theorem holdersGroup_sublist (votes : List String) (claims : List (String × List (String × Int)))
    (c : List String) : ((holdersGroup votes claims c).map (·.1)).Sublist votes := by
  have h := (List.filter_sublist (p := fun p => holdersCanon p.2 == c)
    (l := votes.map fun v => (v, (alGet claims v).getD []))).map (·.1)
  rwa [List.map_map, show ((fun x : String × List (String × Int) => x.1) ∘ fun v => (v, (alGet claims v).getD [])) = id
    from rfl, List.map_id] at h

theorem computeHolders_some {powers : List (String × Nat)} {votes : List String}
    {claims : List (String × List (String × Int))} {l : List (String × Int)}
    (h : computeHolders powers votes claims = some l) :
    ∃ c, sumNats ((holdersGroup votes claims c).map fun p => (alGet powers p.1).getD 0) > 43690 ∧
      ∃ v ∈ votes, (alGet claims v).getD [] = l ∧ holdersCanon l = c := by
  unfold computeHolders at h
  simp only at h
  split at h
  · cases h
  · rename_i c rest hw
    have hc : c ∈ c :: rest := List.mem_cons_self
    rw [← hw, List.mem_filter, decide_eq_true_eq, twoThirdsU16] at hc
    refine ⟨c, hc.2, ?_⟩
    obtain ⟨p, hp, rfl⟩ := Option.map_eq_some_iff.mp h
    obtain ⟨hin, hcan⟩ := List.mem_filter.mp (List.mem_of_getLast? hp)
    obtain ⟨v, hv, rfl⟩ := List.mem_map.mp hin
    exact ⟨v, hv, rfl, beq_iff_eq.mp hcan⟩

theorem sumNats_map_le {α : Type} {f g : α → Nat} {l : List α} (h : ∀ x ∈ l, f x ≤ g x) :
    sumNats (l.map f) ≤ sumNats (l.map g) := by
  induction l with
  | nil => exact Nat.le_refl _
  | cons x t ih =>
    simp only [List.map_cons, sumNats_cons]
    have := h x List.mem_cons_self
    have := ih (fun y hy => h y (List.mem_cons_of_mem _ hy))
    omega

/-- More than 43690 of 65535 in normalised powers is more than two thirds of the raw power
    (with `T = 0` nothing is counted). -/
theorem two_thirds_of_floor_sum (ps : List Nat) (T : Nat)
    (h : sumNats (ps.map fun p => p * 65535 / T) > 43690) : 3 * sumNats ps > 2 * T := by
  cases T with
  | zero => rw [sum_floor_zero] at h; omega
  | succ T =>
    have h1 := sumNats_floor_mul_le 65535 (T + 1) ps
    have h2 := Nat.mul_le_mul_right (T + 1) h
    omega


theorem sum_ite_le (k : String) (c : Nat) (g : String → Nat) {vs : List String} (hn : vs.Nodup) :
    sumNats (vs.map fun v => if k == v then c else g v) ≤ c + sumNats (vs.map g) := by
  induction vs with
  | nil => exact Nat.le_add_left _ _
  | cons v t ih =>
    obtain ⟨hv, ht⟩ := List.nodup_cons.mp hn
    simp only [List.map_cons, sumNats_cons]
    by_cases hk : k = v
    · subst hk
      rw [if_pos (show (k == k) = true from beq_self_eq_true k), sumNats_map_congr (g := g) fun x hx =>
        if_neg fun e => hv (by rw [beq_iff_eq] at e; exact e ▸ hx)]
      omega
    · rw [if_neg (by rwa [beq_iff_eq])]
      have := ih ht
      omega

/-- `Hub.lastPower` / `Hub.totalPower` on the raw validator list. -/
def lastPowerL (st : List Validator) (v : String) : Nat :=
  match st.find? (fun x => x.addr == v) with
  | some x => if x.bonded then x.power else 0
  | none => 0

def totalPowerL (st : List Validator) : Nat := sumNats ((st.filter (·.bonded)).map (·.power))

theorem lastPower_eq (h : Hub) (v : String) : h.lastPower v = lastPowerL h.staking v := rfl
theorem totalPower_eq (h : Hub) : h.totalPower = totalPowerL h.staking := rfl

theorem lastPowerL_cons (x : Validator) (t : List Validator) (v : String) :
    lastPowerL (x :: t) v =
      if x.addr == v then (if x.bonded then x.power else 0) else lastPowerL t v := by
  unfold lastPowerL
  rw [List.find?_cons]
  cases x.addr == v <;> rfl

theorem totalPowerL_cons (x : Validator) (t : List Validator) :
    totalPowerL (x :: t) = (if x.bonded then x.power else 0) + totalPowerL t := by
  unfold totalPowerL
  rw [List.filter_cons]
  cases x.bonded
  · exact (Nat.zero_add _).symm
  · exact sumNats_cons _ _

/-- The raw power behind a normalised power: the first *bonded* validator under that address. -/
def bondedPowerL (st : List Validator) (v : String) : Nat :=
  (alGet ((st.filter (·.bonded)).map fun x => (x.addr, x.power)) v).getD 0

def Hub.bondedPower (h : Hub) (v : String) : Nat := bondedPowerL h.staking v

theorem bondedPowerL_cons (x : Validator) (t : List Validator) (v : String) :
    bondedPowerL (x :: t) v =
      if x.bonded then (if x.addr == v then x.power else bondedPowerL t v) else bondedPowerL t v := by
  unfold bondedPowerL
  rw [List.filter_cons]
  cases x.bonded
  · rfl
  · rw [if_pos rfl, if_pos rfl, List.map_cons, alGet]
    cases x.addr == v <;> rfl

theorem lastPowerL_le_bonded (st : List Validator) (v : String) :
    lastPowerL st v ≤ bondedPowerL st v := by
  induction st with
  | nil => exact Nat.le_refl _
  | cons x t ih =>
    rw [lastPowerL_cons, bondedPowerL_cons]
    cases x.bonded <;> cases x.addr == v
    · exact ih
    · exact Nat.zero_le _
    · exact ih
    · exact Nat.le_refl _

theorem sum_bondedPowerL_le (st : List Validator) {vs : List String} (hn : vs.Nodup) :
    sumNats (vs.map (bondedPowerL st)) ≤ totalPowerL st := by
  induction st with
  | nil => rw [sumNats_map_eq_zero vs (bondedPowerL []) fun _ _ => rfl]; exact Nat.zero_le _
  | cons x t ih =>
    rw [totalPowerL_cons, sumNats_map_congr fun v _ => bondedPowerL_cons x t v]
    cases x.bonded
    · exact Nat.le_trans ih (Nat.le_add_left _ _)
    · exact Nat.le_trans (sum_ite_le x.addr x.power (bondedPowerL t) hn) (Nat.add_le_add_left ih _)

theorem sum_bondedPower_le_total (h : Hub) {vs : List String} (hn : vs.Nodup) :
    sumNats (vs.map h.bondedPower) ≤ h.totalPower :=
  sum_bondedPowerL_le h.staking hn

theorem lastPower_le_bondedPower (h : Hub) (v : String) : h.lastPower v ≤ h.bondedPower v :=
  lastPowerL_le_bonded h.staking v

theorem sum_lastPower_le_total (h : Hub) {vs : List String} (hn : vs.Nodup) :
    sumNats (vs.map h.lastPower) ≤ h.totalPower :=
  Nat.le_trans (sumNats_map_le fun v _ => lastPower_le_bondedPower h v) (sum_bondedPower_le_total h hn)

/-! ### Normalised powers (`GetNormalizedValPowers`) -/

theorem alGet_map_snd {κ α β : Type} [BEq κ] (f : α → β) (l : List (κ × α)) (k : κ) :
    alGet (l.map fun p => (p.1, f p.2)) k = (alGet l k).map f := by
  induction l with
  | nil => rfl
  | cons p t ih =>
    obtain ⟨k', a⟩ := p
    simp only [List.map_cons, alGet]
    split
    · rfl
    · exact ih

/-- `power ↦ power * M / total`, entry by entry, `total` being the sum over all entries
    (that it commutes with reordering the entries is `Det.normalise_perm` in Lemmas/Det). -/
def Det.normalise (M : Nat) (l : List (String × Nat)) : List (String × Nat) :=
  l.map fun p => (p.1, p.2 * M / sumNats (l.map (·.2)))

theorem normalizedPowers_eq (h : Hub) :
    h.normalizedPowers =
      (let bonded := h.staking.filter (·.bonded)
       if bonded.isEmpty then .ok []
       else if sumNats (bonded.map (·.power)) == 0 then panicM "division by zero"
       else .ok (Det.normalise maxU16 (bonded.map fun v => (v.addr, v.power)))) := by
  unfold Hub.normalizedPowers Det.normalise
  simp only [List.map_map]
  rfl

theorem normalizedPowers_ok {h : Hub} {pw : List (String × Nat)} (hok : h.normalizedPowers = .ok pw) :
    ∀ v, (alGet pw v).getD 0 = h.bondedPower v * 65535 / h.totalPower := by
  have hpw : pw = Det.normalise maxU16 ((h.staking.filter (·.bonded)).map fun v => (v.addr, v.power)) := by
    simp only [normalizedPowers_eq, panicM, ite_ok_iff, guard_ok_iff, ok_eq_ok_iff, List.isEmpty_iff] at hok
    rcases hok with ⟨he, rfl⟩ | ⟨_, _, rfl⟩
    · rw [he]; rfl
    · rfl
  intro v
  have ht : h.totalPower =
      sumNats (((h.staking.filter (·.bonded)).map fun v => (v.addr, v.power)).map (·.2)) := by
    rw [List.map_map]; rfl
  rw [hpw, ht, Det.normalise, alGet_map_snd (fun x => x * maxU16 / _)]
  show _ = (alGet _ v).getD 0 * 65535 / _
  cases alGet ((h.staking.filter (·.bonded)).map fun v => (v.addr, v.power)) v with
  | none => show 0 = 0 * 65535 / _; rw [Nat.zero_mul, Nat.zero_div]
  | some x => rfl


/-- The `(name, value, normalised power)` triples the handler collects from the latest claim of
    every voter with non-zero power. -/
def priceContributions (powers : List (String × Nat)) (votes : List String)
    (claims : List (String × List (String × Int))) : List (String × Int × Nat) :=
  votes.flatMap fun v =>
    let p := (alGet powers v).getD 0
    if p == 0 then [] else ((alGet claims v).getD []).map fun item => (item.1, item.2, p)

def priceReports (powers : List (String × Nat)) (votes : List String)
    (claims : List (String × List (String × Int))) (n : String) : List (Int × Nat) :=
  ((priceContributions powers votes claims).filter (·.1 == n)).map fun c => (c.2.1, c.2.2)

theorem mem_computePrices_iff {powers : List (String × Nat)} {votes : List String}
    {claims : List (String × List (String × Int))} {n : String} {m : Int} :
    (n, m) ∈ computePrices powers votes claims ↔
      (n ∈ (priceContributions powers votes claims).map (·.1) ∧
       weightedMedian (priceReports powers votes claims n) = some m) := by
  show (n, m) ∈ List.filterMap _ (isort _ ((priceContributions powers votes claims).map (·.1)).eraseDups) ↔ _
  simp only [List.mem_filterMap, Option.map_eq_some_iff, Prod.mk.injEq, mem_isort, List.mem_eraseDups]
  constructor
  · rintro ⟨_, hn, _, hm, rfl, rfl⟩
    exact ⟨hn, hm⟩
  · rintro ⟨hn, hm⟩
    exact ⟨n, hn, m, hm, rfl, rfl⟩

theorem exists_mem_priceReports_iff {powers : List (String × Nat)} {votes : List String}
    {claims : List (String × List (String × Int))} {n : String} :
    (∃ x w, (x, w) ∈ priceReports powers votes claims n) ↔
      n ∈ (priceContributions powers votes claims).map (·.1) := by
  simp only [priceReports, List.mem_map, List.mem_filter, beq_iff_eq]
  constructor
  · rintro ⟨_, _, c, ⟨hc, hn⟩, _⟩
    exact ⟨c, hc, hn⟩
  · rintro ⟨c, hc, hn⟩
    exact ⟨_, _, c, ⟨hc, hn⟩, rfl⟩

theorem mem_priceReports {powers : List (String × Nat)} {votes : List String}
    {claims : List (String × List (String × Int))} {n : String} {x : Int} {w : Nat} :
    (x, w) ∈ priceReports powers votes claims n ↔
      ∃ v ∈ votes, w = (alGet powers v).getD 0 ∧ w ≠ 0 ∧ (n, x) ∈ (alGet claims v).getD [] := by
  simp only [priceReports, priceContributions, List.mem_map, List.mem_filter, List.mem_flatMap, beq_iff_eq,
    Prod.mk.injEq]
  constructor
  · rintro ⟨_, ⟨⟨v, hv, hin⟩, rfl⟩, rfl, rfl⟩
    split at hin
    · cases hin
    · rename_i hp
      obtain ⟨item, hitem, rfl⟩ := List.mem_map.mp hin
      exact ⟨v, hv, rfl, hp, hitem⟩
  · rintro ⟨v, hv, rfl, hw0, hmem⟩
    refine ⟨(n, x, _), ⟨⟨v, hv, ?_⟩, rfl⟩, rfl, rfl⟩
    rw [if_neg hw0]
    exact List.mem_map.mpr ⟨(n, x), hmem, rfl⟩


theorem recordClaims_get {β : Type} (ms : List (String × β)) (s : List (String × β) × List String)
    (v : String) :
    alGet (ms.foldl recordClaim s).1 v =
      match (ms.filter (·.1 == v)).getLast? with
      | some m => some m.2
      | none => alGet s.1 v := by
  induction ms generalizing s with
  | nil => rfl
  | cons m t ih =>
    rw [List.foldl_cons, ih, List.filter_cons]
    by_cases hm : m.1 = v
    · rw [if_pos (beq_iff_eq.mpr hm)]
      cases ht : t.filter (·.1 == v) with
      | nil => subst hm; exact alGet_alSet_same _ _ _
      | cons x xs => rw [List.getLast?_cons_cons, List.getLast?_eq_some_getLast (List.cons_ne_nil x xs)]
    · rw [if_neg (fun e => hm (beq_iff_eq.mp e))]
      cases (t.filter (·.1 == v)).getLast? with
      | none => exact alGet_alSet_other _ _ _ _ hm
      | some x => rfl

theorem recordClaims_mem {β : Type} (ms : List (String × β)) (s : List (String × β) × List String)
    (v : String) :
    v ∈ (ms.foldl recordClaim s).2 ↔ v ∈ s.2 ∨ ∃ m ∈ ms, m.1 = v := by
  induction ms generalizing s with
  | nil => simp only [List.foldl_nil, List.not_mem_nil, false_and, exists_false, or_false]
  | cons m t ih =>
    rw [List.foldl_cons, ih]
    simp only [recordClaim, mem_addVoteOnce, List.mem_cons, exists_eq_or_imp, or_assoc, eq_comm (a := v)]

theorem recordClaims_nodup {β : Type} (ms : List (String × β)) (s : List (String × β) × List String)
    (h : s.2.Nodup) : (ms.foldl recordClaim s).2.Nodup := by
  induction ms generalizing s with
  | nil => exact h
  | cons m t ih => exact ih _ (addVoteOnce_nodup _ h)

theorem recordClaims_latest {α β : Type} (cnt : α → Bool) (key : α → String) (val : α → β)
    (msgs : List α) (cl : List (String × β)) {r : List (String × β) × List String}
    (hr : r = ((msgs.filter cnt).map fun m => (key m, val m)).foldl recordClaim (cl, [])) :
    r.2.Nodup ∧
    ∀ v, (v ∈ r.2 ↔ ∃ m ∈ msgs, key m = v ∧ cnt m = true) ∧
         (v ∈ r.2 → ∃ m, (msgs.filter fun m => cnt m && key m == v).getLast? = some m ∧
            alGet r.1 v = some (val m)) := by
  subst hr
  refine ⟨recordClaims_nodup _ _ List.nodup_nil, fun v => ?_⟩
  have hmem : v ∈ (((msgs.filter cnt).map fun m => (key m, val m)).foldl recordClaim (cl, [])).2 ↔
      ∃ m ∈ msgs, key m = v ∧ cnt m = true := by
    simp only [recordClaims_mem, List.not_mem_nil, false_or, List.mem_map, List.mem_filter]
    constructor
    · rintro ⟨_, ⟨m, ⟨hm, hc⟩, rfl⟩, hv⟩
      exact ⟨m, hm, hv, hc⟩
    · rintro ⟨m, hm, hv, hc⟩
      exact ⟨_, ⟨m, ⟨hm, hc⟩, rfl⟩, hv⟩
  refine ⟨hmem, fun hv => ?_⟩
  obtain ⟨m0, hm0, hm0v, hm0c⟩ := hmem.mp hv
  have hfm : (((msgs.filter cnt).map fun m => (key m, val m)).filter (·.1 == v))
      = (msgs.filter fun m => cnt m && key m == v).map fun m => (key m, val m) := by
    rw [List.filter_map, List.filter_filter]
    exact congrArg _ (List.filter_congr fun x _ => Bool.and_comm _ _)
  have hne : (msgs.filter fun m => cnt m && key m == v) ≠ [] :=
    List.ne_nil_of_mem (List.mem_filter.mpr ⟨hm0, by rw [hm0c, hm0v, beq_self_eq_true]; rfl⟩)
  rw [recordClaims_get, hfm, List.getLast?_map, List.getLast?_eq_some_getLast hne]
  exact ⟨_, rfl, rfl⟩

/-- A price-claim message `(validator, epoch, prices)`. -/
abbrev PriceMsg := String × Nat × List (String × Int)

/-- Is the message counted in epoch `ep`?  (The conditions of `oraclePriceClaim`.) -/
def priceClaimCounts (h : Hub) (ep : Nat) (m : PriceMsg) : Bool :=
  !(m.2.1 == 0) && !((m.2.2.map (·.1)).eraseDups.length != m.2.2.length) &&
  !(h.validator? m.1).isNone && !(ep != m.2.1) &&
  (requiredPriceNames h).all (fun n => m.2.2.any fun p => p.1 == n && p.2 > 0)

/-- Delivery of one message: a rejected transaction leaves the state alone. -/
def priceClaimStep (h : Hub) (o : OracleSt) (m : PriceMsg) : OracleSt :=
  match oraclePriceClaim h o m.1 m.2.1 m.2.2 with
  | .ok o' => o'
  | .error _ => o

def priceClaimRun (h : Hub) (o : OracleSt) (msgs : List PriceMsg) : OracleSt :=
  msgs.foldl (priceClaimStep h) o

/-- A holders-claim message `(validator, epoch, holders)`. -/
abbrev HoldersMsg := String × Nat × List (String × Int)

/-- Is the message counted in epoch `ep`?  (The conditions of `oracleHoldersClaim`.) -/
def holdersClaimCounts (h : Hub) (ep : Nat) (m : HoldersMsg) : Bool :=
  !(m.2.1 == 0) && lowerNoDup (m.2.2.map (·.1)) && !(h.validator? m.1).isNone && !(ep != m.2.1)

/-- Delivery of one message: a rejected transaction leaves the state alone. -/
def holdersClaimStep (h : Hub) (o : OracleSt) (m : HoldersMsg) : OracleSt :=
  match oracleHoldersClaim h o m.1 m.2.1 m.2.2 with
  | .ok o' => o'
  | .error _ => o

def holdersClaimRun (h : Hub) (o : OracleSt) (msgs : List HoldersMsg) : OracleSt :=
  msgs.foldl (holdersClaimStep h) o

theorem priceClaimCounts_iff (h : Hub) (ep : Nat) (m : PriceMsg) :
    priceClaimCounts h ep m = true ↔
      m.2.1 ≠ 0 ∧ (m.2.2.map (·.1)).eraseDups.length = m.2.2.length ∧ (h.validator? m.1).isSome ∧
      m.2.1 = ep ∧ ∀ n ∈ requiredPriceNames h, ∃ p ∈ m.2.2, p.1 = n ∧ p.2 > 0 := by
  simp only [priceClaimCounts, Bool.and_eq_true, Bool.not_eq_true', beq_eq_false_iff_ne, bne_eq_false_iff_eq,
    List.all_eq_true, List.any_eq_true, decide_eq_true_eq, beq_iff_eq, Option.isNone_eq_false_iff, and_assoc,
    eq_comm (a := ep)]

theorem holdersClaimCounts_iff (h : Hub) (ep : Nat) (m : HoldersMsg) :
    holdersClaimCounts h ep m = true ↔
      m.2.1 ≠ 0 ∧ lowerNoDup (m.2.2.map (·.1)) = true ∧ (h.validator? m.1).isSome ∧ m.2.1 = ep := by
  simp only [holdersClaimCounts, Bool.and_eq_true, Bool.not_eq_true', beq_eq_false_iff_ne, bne_eq_false_iff_eq,
    Option.isNone_eq_false_iff, and_assoc, eq_comm (a := ep)]

theorem priceClaimCounts_iff_ok (h : Hub) (o : OracleSt) (m : PriceMsg) :
    priceClaimCounts h o.epoch m = true ↔
      (m.2.1 = o.epoch ∧ ∃ o', oraclePriceClaim h o m.1 m.2.1 m.2.2 = .ok o') := by
  simp only [priceClaimCounts_iff, oraclePriceClaim_ok_iff]
  constructor
  · rintro ⟨h1, h2, h3, h4, h5⟩
    exact ⟨h4, _, h1, h2, h3, Or.inr ⟨h4.symm, h5, rfl⟩⟩
  · rintro ⟨h4, _, h1, h2, h3, ⟨hne, _⟩ | ⟨_, h5, _⟩⟩
    · exact absurd h4.symm hne
    · exact ⟨h1, h2, h3, h4, h5⟩

theorem priceClaimStep_eq (h : Hub) (o : OracleSt) (m : PriceMsg) :
    priceClaimStep h o m =
      if priceClaimCounts h o.epoch m then
        { o with priceClaims := alSet o.priceClaims m.1 m.2.2, priceVotes := addVoteOnce o.priceVotes m.1 }
      else o := by
  unfold priceClaimStep
  cases hc : priceClaimCounts h o.epoch m
  · cases hok : oraclePriceClaim h o m.1 m.2.1 m.2.2 with
    | error _ => rfl
    | ok o' =>
      obtain ⟨h1, h2, h3, ⟨_, he⟩ | ⟨h4, h5, _⟩⟩ := oraclePriceClaim_ok_iff.mp hok
      · exact he
      · rw [(priceClaimCounts_iff h o.epoch m).mpr ⟨h1, h2, h3, h4.symm, h5⟩] at hc; cases hc
  · obtain ⟨h1, h2, h3, h4, h5⟩ := (priceClaimCounts_iff h o.epoch m).mp hc
    rw [oraclePriceClaim_ok_iff.mpr ⟨h1, h2, h3, Or.inr ⟨h4.symm, h5, rfl⟩⟩]
    rfl

theorem holdersClaimStep_eq (h : Hub) (o : OracleSt) (m : HoldersMsg) :
    holdersClaimStep h o m =
      if holdersClaimCounts h o.epoch m then
        { o with holderClaims := alSet o.holderClaims m.1 m.2.2, holderVotes := addVoteOnce o.holderVotes m.1 }
      else o := by
  unfold holdersClaimStep
  cases hc : holdersClaimCounts h o.epoch m
  · cases hok : oracleHoldersClaim h o m.1 m.2.1 m.2.2 with
    | error _ => rfl
    | ok o' =>
      obtain ⟨h1, h2, h3, ⟨_, he⟩ | ⟨h4, _⟩⟩ := oracleHoldersClaim_ok_iff.mp hok
      · exact he
      · rw [(holdersClaimCounts_iff h o.epoch m).mpr ⟨h1, h2, h3, h4.symm⟩] at hc; cases hc
  · obtain ⟨h1, h2, h3, h4⟩ := (holdersClaimCounts_iff h o.epoch m).mp hc
    rw [oracleHoldersClaim_ok_iff.mpr ⟨h1, h2, h3, Or.inr ⟨h4.symm, rfl⟩⟩]
    rfl

theorem priceClaimRun_eq (h : Hub) (o : OracleSt) (msgs : List PriceMsg) :
    priceClaimRun h o msgs =
      { o with
        priceClaims := (((msgs.filter (priceClaimCounts h o.epoch)).map fun m => (m.1, m.2.2)).foldl
          recordClaim (o.priceClaims, o.priceVotes)).1,
        priceVotes := (((msgs.filter (priceClaimCounts h o.epoch)).map fun m => (m.1, m.2.2)).foldl
          recordClaim (o.priceClaims, o.priceVotes)).2 } := by
  unfold priceClaimRun
  induction msgs generalizing o with
  | nil => rfl
  | cons m t ih =>
    rw [List.foldl_cons, ih, List.filter_cons, priceClaimStep_eq]
    cases priceClaimCounts h o.epoch m <;> rfl

theorem holdersClaimRun_eq (h : Hub) (o : OracleSt) (msgs : List HoldersMsg) :
    holdersClaimRun h o msgs =
      { o with
        holderClaims := (((msgs.filter (holdersClaimCounts h o.epoch)).map fun m => (m.1, m.2.2)).foldl
          recordClaim (o.holderClaims, o.holderVotes)).1,
        holderVotes := (((msgs.filter (holdersClaimCounts h o.epoch)).map fun m => (m.1, m.2.2)).foldl
          recordClaim (o.holderClaims, o.holderVotes)).2 } := by
  unfold holdersClaimRun
  induction msgs generalizing o with
  | nil => rfl
  | cons m t ih =>
    rw [List.foldl_cons, ih, List.filter_cons, holdersClaimStep_eq]
    cases holdersClaimCounts h o.epoch m <;> rfl

end Mhub2
