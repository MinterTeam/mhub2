/-
  Field projections of the status and chain writes, the sign of the decimal conversions, and the
  token-table lookups read backwards.
-/
import Lemmas.Base
import Lemmas.Arith
namespace Mhub2

@[simp] theorem setStatus_bal (h : Hub) (tx : String) (st : Nat) (o : String) :
    (h.setStatus tx st o).bal = h.bal := rfl
@[simp] theorem setStatus_supply (h : Hub) (tx : String) (st : Nat) (o : String) :
    (h.setStatus tx st o).supply = h.supply := rfl
@[simp] theorem setChain_bal (h : Hub) (c : String) (s : ChainSt) : (h.setChain c s).bal = h.bal := rfl
@[simp] theorem setChain_supply (h : Hub) (c : String) (s : ChainSt) : (h.setChain c s).supply = h.supply := rfl

theorem fromExternal_nonneg (h : Hub) (chain ext : String) {a : Int} (ha : 0 ≤ a) :
    0 ≤ h.fromExternal chain ext a := by
  unfold Hub.fromExternal
  split
  · exact ha
  · exact convertDecimals_nonneg _ _ ha

theorem toExternal_nonneg (h : Hub) (chain ext : String) {a : Int} (ha : 0 ≤ a) :
    0 ≤ h.toExternal chain ext a := by
  unfold Hub.toExternal
  split
  · exact ha
  · exact convertDecimals_nonneg _ _ ha

def Hub.TokensWF (h : Hub) : Prop :=
  ∀ t1 ∈ h.tokens, ∀ t2 ∈ h.tokens, t1.chain = t2.chain → t1.extId = t2.extId → t1 = t2

theorem tokenByExt_of_mem {h : Hub} (hwf : h.TokensWF) {tok : TokenInfo} (hm : tok ∈ h.tokens) :
    h.tokenByExt tok.chain tok.extId = some tok := by
  unfold Hub.tokenByExt
  cases hf : h.tokens.find? (fun t => t.chain == tok.chain && t.extId == tok.extId) with
  | none =>
    have := List.find?_eq_none.mp hf tok hm
    simp at this
  | some t =>
    have hp := List.find?_some hf
    have hmem := List.mem_of_find?_eq_some hf
    simp at hp
    rw [hwf t hmem tok hm hp.1 hp.2]

theorem tokenByExt_some {h : Hub} {chain ext : String} {t : TokenInfo} (ht : h.tokenByExt chain ext = some t) :
    t ∈ h.tokens ∧ t.chain = chain ∧ t.extId = ext := by
  unfold Hub.tokenByExt at ht
  have hp := List.find?_some ht
  simp at hp
  exact ⟨List.mem_of_find?_eq_some ht, hp.1, hp.2⟩

theorem tokenByDenom_some {h : Hub} {chain denom : String} {tok : TokenInfo}
    (ht : h.tokenByDenom chain denom = some tok) : tok ∈ h.tokens ∧ tok.chain = chain ∧ tok.denom = denom := by
  unfold Hub.tokenByDenom at ht
  have hp := List.find?_some ht
  simp at hp
  exact ⟨List.mem_of_find?_eq_some ht, hp.2, hp.1⟩

end Mhub2
