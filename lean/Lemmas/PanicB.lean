/-
  C05, bridge to the ledger invariant of C04 (Lemmas/Ledger.lean): under `Hub.LedgerInv` and the
  `uint64` bound `Hub.Bounded` the batches of every chain have pairwise distinct store keys, which is
  what the time-out clean-up of begin block needs for its look-ups to succeed.
-/
import Lemmas.Ledger
import Lemmas.PanicA
namespace Mhub2.C05
open Mhub2

theorem ledgerInv_batchKeysDistinct {h : Hub} (hi : h.LedgerInv) (hb : h.Bounded) : BatchKeysDistinct h := by
  intro c
  have hci := Hub.ledgerInv_iff.mp hi c
  have hnd : (h.chain c).batches.Nodup := nodup_of_map (·.nonce) hci.bnodup
  exact List.Pairwise.imp_of_mem (fun ha hb' hne e => hne (hci.batchKey_inj (hb c).2 ha hb' e)) hnd

theorem cleanup_no_panic_of_ledgerInv {h : Hub} {c : String} (hne : c ≠ "minter")
    (hi : h.LedgerInv) (hb : h.Bounded) : ∀ m, h.cleanupTimedOutBatches c ≠ .error (.panic m) :=
  (cleanup_spec hne (ledgerInv_batchKeysDistinct hi hb c)).1

theorem begin_block_no_panic_of_ledgerInv {h : Hub} (hn : h.chains.Nodup) (hi : h.LedgerInv)
    (hb : h.Bounded) (hs : StakingSane h) : ∀ m, h.beginBlock ≠ .error (.panic m) :=
  beginBlock_spec_nodup h hn (ledgerInv_batchKeysDistinct hi hb) hs

end Mhub2.C05
