/-
  Contract (logic) call checkpoints: the `submitLogicCall` argument list is well typed, the second word
  of every checkpoint pre-image is its method name, what `scope32` keeps of an invalidation scope, and
  the recovery-byte normalisation `normV`.  `keccak256` is never unfolded.
-/
import Mhub2.Abi
import Lemmas.Encoding
namespace Mhub2
namespace Enc


theorem wf_solArgsCall {g m : Bytes} {ta : List Nat} {tt : List Bytes} {fa : List Nat} {ft : List Bytes}
    {lc pl : Bytes} {to : Nat} {iid : Bytes} {inonce : Nat}
    (hg : g.length = 32) (hm : m.length = 32)
    (hlta : ta.length < 2 ^ 256) (hta : ∀ a ∈ ta, a < 2 ^ 256)
    (hltt : tt.length < 2 ^ 256) (htt : ∀ t ∈ tt, t.length = 20)
    (hlfa : fa.length < 2 ^ 256) (hfa : ∀ a ∈ fa, a < 2 ^ 256)
    (hlft : ft.length < 2 ^ 256) (hft : ∀ t ∈ ft, t.length = 20)
    (hlc : lc.length = 20) (hpl : pl.length < 2 ^ 256) (hto : to < 2 ^ 256)
    (hiid : iid.length = 32) (hin : inonce < 2 ^ 256) :
    ∀ v ∈ solArgsCall g m ta tt fa ft lc pl to iid inonce, AbiWF v := by
  simp only [solArgsCall, List.forall_mem_cons, List.not_mem_nil, false_imp_iff, implies_true,
    and_true]
  exact ⟨hg, hm, ⟨hlta, hta⟩, ⟨hltt, htt⟩, ⟨hlfa, hfa⟩, ⟨hlft, hft⟩, hlc, hpl, hto, hiid, hin⟩

theorem solArgsCall_kinds (g m : Bytes) (ta : List Nat) (tt : List Bytes) (fa : List Nat) (ft : List Bytes)
    (lc pl : Bytes) (to : Nat) (iid : Bytes) (inonce : Nat) :
    (solArgsCall g m ta tt fa ft lc pl to iid inonce).map abiKind = [0, 0, 3, 4, 3, 4, 2, 5, 1, 0, 1] := rfl


/-- The second 32-byte word of a pre-image that starts `(bytes32, bytes32, …)` is the second
    argument: for every checkpoint, its method name. -/
theorem abiEncode_method_word {g m : Bytes} (hg : g.length = 32) (hm : m.length = 32) (rest : List AbiVal) :
    ((abiEncode (.bytes32 g :: .bytes32 m :: rest)).drop 32).take 32 = m := by
  rw [abiEncode_two_bytes32 hg hm, List.drop_left' hg, List.take_left' hm]

theorem abiEncode_gravity_word {g m : Bytes} (hg : g.length = 32) (hm : m.length = 32) (rest : List AbiVal) :
    (abiEncode (.bytes32 g :: .bytes32 m :: rest)).take 32 = g := by
  rw [abiEncode_two_bytes32 hg hm, List.take_left' hg]

theorem abiEncode_two_bytes32_ne {g1 g2 m1 m2 : Bytes} (hg1 : g1.length = 32) (hg2 : g2.length = 32)
    (hm1 : m1.length = 32) (hm2 : m2.length = 32) (hne : m1 ≠ m2) (r1 r2 : List AbiVal) :
    abiEncode (.bytes32 g1 :: .bytes32 m1 :: r1) ≠ abiEncode (.bytes32 g2 :: .bytes32 m2 :: r2) := by
  intro h
  have e1 := abiEncode_method_word hg1 hm1 r1
  have e2 := abiEncode_method_word hg2 hm2 r2
  rw [h] at e1
  exact hne (e1.symm.trans e2)


theorem scope32_len (s : Bytes) : (scope32 s).length = 32 := by
  unfold scope32 padRight
  simp only [List.length_append, List.length_replicate, List.length_take]
  omega

theorem scope32_of_len32 {s : Bytes} (h : s.length = 32) : scope32 s = s := by
  unfold scope32
  rw [List.take_of_length_le (by omega), padRight_of_le (by omega)]

theorem scope32_take (s : Bytes) : scope32 (s.take 32) = scope32 s := by
  unfold scope32
  rw [List.take_take, Nat.min_self]

theorem scope32_append_of_len32 {s : Bytes} (h : s.length = 32) (t : Bytes) : scope32 (s ++ t) = s := by
  unfold scope32
  rw [List.take_left' h, padRight_of_le (by omega)]

theorem scope32_append_zeros {s : Bytes} {k : Nat} (h : s.length + k ≤ 32) :
    scope32 (s ++ List.replicate k 0) = scope32 s := by
  unfold scope32 padRight
  rw [List.take_of_length_le (by simp; omega), List.take_of_length_le (by omega)]
  simp only [List.length_append, List.length_replicate, List.append_assoc,
    List.replicate_append_replicate]
  congr 2
  omega

theorem scope32_inj_of_len {s1 s2 : Bytes} (hl : s1.length = s2.length) (h32 : s1.length ≤ 32)
    (h : scope32 s1 = scope32 s2) : s1 = s2 := by
  unfold scope32 at h
  rw [List.take_of_length_le h32, List.take_of_length_le (by omega)] at h
  exact padRight_inj hl h


theorem normV_of_27 {sig : Bytes} (h : sig.getD 64 0 = 27) : normV sig = sig.set 64 0 := by
  unfold normV
  rw [h]; rfl

theorem normV_of_28 {sig : Bytes} (h : sig.getD 64 0 = 28) : normV sig = sig.set 64 1 := by
  unfold normV
  rw [h]; rfl

theorem normV_of_other {sig : Bytes} (h27 : sig.getD 64 0 ≠ 27) (h28 : sig.getD 64 0 ≠ 28) :
    normV sig = sig := by
  unfold normV
  simp only [Bool.or_eq_true, beq_iff_eq, h27, h28, or_self, if_false]

theorem length_of_getD64_ne_zero {sig : Bytes} (h : sig.getD 64 0 ≠ 0) : 65 ≤ sig.length := by
  apply Classical.byContradiction
  intro hn
  apply h
  simp only [List.getD_eq_getElem?_getD, List.getElem?_eq_none (show sig.length ≤ 64 by omega),
    Option.getD_none]

end Enc
end Mhub2
