/-
  The guarded keeper functions of the hub model read backwards: what a success says about the
  guards that held and the sub-operations that ran (`*_ok`, `*_cases`; `cancelSte_eq`,
  `buildBatch_eq`, `batchExecuted_eq`, `beginBlock_eq` are normal forms that hold by `rfl`).  On
  top of these: the trace `Moves` of the store writes the handler side can make, `SideWrite` for
  the operations that write beside the ledger, and the step semantics `OpOk` of the line protocol.  The loops of the block functions (tally, expiry and
  timeout sweeps, batch building, fee distribution) have no inversion: each has a rule lemma
  `*_rel` that carries a reflexive transitive relation through it.  Proofs about panics, or about
  the exact amounts each piece of `batchTxExecuted` writes, read the functions themselves.
-/
import Mhub2.Step
import Lemmas.Bank
namespace Mhub2

/-! ### Reading a `do` block backwards -/

/-- `J` is the join point the `do` notation generates for the rest of the block. -/
theorem jp_ok {α : Type} {c : Prop} [Decidable c] {e : Err} {J : Unit → M α} {a : α}
    (h : (if c then (Except.error e : M Unit) >>= J else J ()) = .ok a) : ¬ c ∧ J () = .ok a := by
  by_cases hc : c
  · rw [if_pos hc] at h; cases h
  · rw [if_neg hc] at h; exact ⟨hc, h⟩

theorem ite_err_ok {α : Type} {c : Prop} [Decidable c] {e : Err} {k : M α} {a : α}
    (h : (if c then .error e else k) = .ok a) : ¬ c ∧ k = .ok a :=
  jp_ok (J := fun _ => k) h

theorem bind_ok {α β : Type} {m : M α} {f : α → M β} {b : β} (h : (m >>= f) = .ok b) :
    ∃ a, m = .ok a ∧ f a = .ok b := by
  cases hm : m with
  | error x => rw [hm] at h; cases h
  | ok a => rw [hm] at h; exact ⟨a, rfl, h⟩

/-! ### Bank -/

/-- The signed bank write that `mintTo`, `burnFrom` and the refund of `cancelSte` all come to
    (`mintTo_eq`, `burnFrom_eq`, `cancelSte_eq`): the supply of `denom` and the balance of `acc`
    both change by `total`, which may be negative (`MintCoins` + `SendCoinsFromModuleToAccount`
    for a refund or a deposit, `SendCoinsFromAccountToModule` + `BurnCoins` for an outgoing
    transfer).  `sdk.NewCoins` drops a zero coin, so nothing is written for a zero amount; the
    test is spelt twice, as in `Hub.cancelSte`, so that `cancelSte_eq` holds by `rfl`. -/
def Hub.bankWrite (h : Hub) (acc denom : String) (total : Int) : Hub :=
  let hMint : Hub :=
    if total == 0 then h else { h with supply := alSet h.supply denom (h.supplyOf denom + total) }
  if total == 0 then hMint else hMint.credit acc denom total

theorem bankWrite_frame (h : Hub) (acc denom : String) (total : Int) :
    h.bankWrite acc denom total =
      { h with bal := (h.bankWrite acc denom total).bal, supply := (h.bankWrite acc denom total).supply } := by
  unfold Hub.bankWrite
  by_cases ht : (total == 0) = true
  · simp only [ht, if_true]
  · simp only [ht]; rfl

theorem bankWrite_balance (h : Hub) (acc denom : String) (total : Int) (a d : String) :
    (h.bankWrite acc denom total).balance a d = h.balance a d + (if (acc, denom) = (a, d) then total else 0) := by
  unfold Hub.bankWrite
  by_cases ht : total = 0
  · simp [ht]
  · by_cases hx : (acc, denom) = (a, d)
    · injection hx with h1 h2; subst h1; subst h2
      simp [ht, Hub.credit, Hub.balance]
    · simp [ht, hx, Hub.credit, Hub.balance, alGet_alSet_other _ _ _ _ hx]

theorem bankWrite_supply (h : Hub) (acc denom : String) (total : Int) (d : String) :
    (h.bankWrite acc denom total).supplyOf d = h.supplyOf d + (if denom = d then total else 0) := by
  unfold Hub.bankWrite
  by_cases ht : total = 0
  · simp [ht]
  · by_cases hx : denom = d
    · subst hx; simp [ht, Hub.credit, Hub.supplyOf]
    · simp [ht, hx, Hub.credit, Hub.supplyOf, alGet_alSet_other _ _ _ _ hx]

theorem bankWrite_fields (h : Hub) (acc d : String) (x : Int) :
    (h.bankWrite acc d x).cs = h.cs ∧ (h.bankWrite acc d x).tokens = h.tokens ∧
    (h.bankWrite acc d x).time = h.time := by
  have e := bankWrite_frame h acc d x
  exact ⟨by rw [e], by rw [e], by rw [e]⟩

theorem mintTo_eq {h h' : Hub} {acc d : String} {amt : Int} (hm : h.mintTo acc d amt = .ok h') :
    0 < amt ∧ h' = h.bankWrite acc d amt := by
  unfold Hub.mintTo failM at hm
  obtain ⟨hpos, hm⟩ := ite_err_ok hm
  injection hm with hm
  have h0 : ¬ (amt == 0) = true := by simp; omega
  refine ⟨by omega, ?_⟩
  unfold Hub.bankWrite
  rw [if_neg h0, if_neg h0]
  exact hm.symm

theorem burnFrom_eq {h h' : Hub} {acc d : String} {amt : Int} (hm : h.burnFrom acc d amt = .ok h') :
    0 < amt ∧ amt ≤ h.balance acc d ∧ h' = h.bankWrite acc d (-amt) := by
  unfold Hub.burnFrom failM at hm
  obtain ⟨hpos, hm⟩ := ite_err_ok hm
  obtain ⟨hbal, hm⟩ := ite_err_ok hm
  injection hm with hm
  have h0 : ¬ (-amt == 0) = true := by simp; omega
  refine ⟨by omega, by omega, ?_⟩
  unfold Hub.bankWrite
  rw [if_neg h0, if_neg h0]
  exact hm.symm

theorem mintTo_frame {h h' : Hub} {acc d : String} {amt : Int} (hm : h.mintTo acc d amt = .ok h') :
    h' = { h with bal := h'.bal, supply := h'.supply } := by
  obtain ⟨_, rfl⟩ := mintTo_eq hm
  exact bankWrite_frame h acc d amt

theorem burnFrom_frame {h h' : Hub} {acc d : String} {amt : Int} (hm : h.burnFrom acc d amt = .ok h') :
    h' = { h with bal := h'.bal, supply := h'.supply } := by
  obtain ⟨_, _, rfl⟩ := burnFrom_eq hm
  exact bankWrite_frame h acc d (-amt)

theorem mintTo_ok {h h' : Hub} {acc d : String} {amt : Int} (hm : h.mintTo acc d amt = .ok h') :
    0 < amt ∧ h'.balance acc d = h.balance acc d + amt ∧ h'.supplyOf d = h.supplyOf d + amt := by
  obtain ⟨hpos, rfl⟩ := mintTo_eq hm
  exact ⟨hpos, by rw [bankWrite_balance, if_pos rfl], by rw [bankWrite_supply, if_pos rfl]⟩

theorem burnFrom_ok {h h' : Hub} {acc d : String} {amt : Int} (hm : h.burnFrom acc d amt = .ok h') :
    0 < amt ∧ amt ≤ h.balance acc d ∧ h'.balance acc d = h.balance acc d - amt
    ∧ h'.supplyOf d = h.supplyOf d - amt ∧ h'.cs = h.cs ∧ h'.tokens = h.tokens
    ∧ h'.time = h.time ∧ h'.status = h.status := by
  obtain ⟨hpos, hle, rfl⟩ := burnFrom_eq hm
  have e := bankWrite_frame h acc d (-amt)
  refine ⟨hpos, hle, ?_, ?_, by rw [e], by rw [e], by rw [e], by rw [e]⟩
  · rw [bankWrite_balance, if_pos rfl]; omega
  · rw [bankWrite_supply, if_pos rfl]; omega

/-! ### `createSendToExternal` -/

def Hub.newSte (h : Hub) (chain sender recipient : String) (tok : TokenInfo) (amount fee comm : Int)
    (txHash refundChain refundAddr : String) : Ste :=
  { id := (h.chain chain).lastSteId + 1, sender := sender, recipient := recipient, tokenId := tok.id,
    extToken := tok.extId,
    amount := h.toExternal chain tok.extId amount,
    fee := h.toExternal chain tok.extId fee,
    comm := h.toExternal chain tok.extId comm,
    chain := chain, txHash := txHash, createdAt := h.time,
    refundAddr := refundAddr, refundChain := refundChain }

/-- `createSte_eff` (Lemmas/Ledger) restates this as equations on the chain's state, `createSte_eq`
    (Lemmas/Value) as one bank write followed by `Hub.addSte`. -/
theorem createSte_ok {h h' : Hub} {chain sender rcp denom tx rc ra : String} {amount fee comm : Int} {n : Nat}
    (hc : h.createSte chain sender rcp denom amount fee comm tx rc ra = .ok (h', n)) :
    ∃ tok hb, h.tokenByDenom chain denom = some tok ∧
      h.burnFrom sender denom (amount + fee + comm) = .ok hb ∧
      n = (hb.chain chain).lastSteId + 1 ∧
      h' = hb.setChain chain { hb.chain chain with
              lastSteId := n,
              pool := insertByKey poolKey (hb.newSte chain sender rcp tok amount fee comm tx rc ra)
                        (hb.chain chain).pool } := by
  unfold Hub.createSte failM at hc
  cases htok : h.tokenByDenom chain denom with
  | none => rw [htok] at hc; cases hc
  | some tok =>
    rw [htok] at hc
    obtain ⟨hb, hhb, hc⟩ := bind_ok hc
    injection hc with hc
    injection hc with h1 h2
    exact ⟨tok, hb, rfl, hhb, h2.symm, by rw [← h1, ← h2]; rfl⟩

/-! ### `MsgSendToExternal` -/

/-- `"<bech32>"` stands for `sender.String()` in `GetCommissionForHolder(ctx, []string{sender.String(),
    msg.ExternalRecipient}, …)` (msg_server.go): the oracle reports holders by hex address, so a
    bech32 account address has no entry and only the recipient can earn the discount. -/
theorem sendToExternal_ok {h h' : Hub} {sender chain rcp denom tx : String} {amount fee : Int} {id : Nat}
    (hok : h.sendToExternal sender chain rcp denom amount fee tx = .ok (h', id)) :
    ∃ tok comm, h.tokenByDenom chain denom = some tok ∧
      comm = commissionOf (h.commissionRateFor ["<bech32>", rcp] tok.commission) (amount + fee) ∧
      0 < amount ∧ 0 ≤ fee ∧ h.hasChain chain = true ∧ 0 ≤ comm ∧ comm ≤ amount ∧
      h.createSte chain sender rcp denom (amount - comm) fee comm tx "hub" sender = .ok (h', id) := by
  unfold Hub.sendToExternal failM panicM at hok
  obtain ⟨h1, hok⟩ := jp_ok hok
  obtain ⟨h2, hok⟩ := jp_ok hok
  obtain ⟨h3, hok⟩ := jp_ok hok
  cases htok : h.tokenByDenom chain denom with
  | none => rw [htok] at hok; cases hok
  | some tok =>
    rw [htok] at hok
    obtain ⟨h4, hok⟩ := jp_ok hok
    obtain ⟨h5, hok⟩ := jp_ok hok
    exact ⟨tok, _, rfl, rfl, by omega, by omega, by simpa using h3, by omega, by omega, hok⟩

/-! ### Deposits and transfers between chains -/

theorem handleSendToHub_ok {h h' : Hub} {chain coin receiver tx : String} {amount : Int}
    (hok : h.handleSendToHub chain coin amount receiver tx = .ok h') :
    ∃ tok hm, h.tokenByExt chain coin = some tok ∧ 0 ≤ fromExt tok.dec amount ∧
      h.detectMaliciousSupply tok.denom (fromExt tok.dec amount) = false ∧
      h.mintTo receiver tok.denom (fromExt tok.dec amount) = .ok hm ∧
      h' = hm.setStatus tx stDeposit "" := by
  unfold Hub.handleSendToHub failM panicM at hok
  cases htok : h.tokenByExt chain coin with
  | none => rw [htok] at hok; cases hok
  | some tok =>
    have hfe : h.fromExternal chain coin amount = fromExt tok.dec amount := by
      unfold Hub.fromExternal; rw [htok]
    rw [htok] at hok
    dsimp only at hok
    rw [hfe] at hok
    obtain ⟨h1, hok⟩ := jp_ok hok
    obtain ⟨h2, hok⟩ := jp_ok hok
    obtain ⟨hm, hhm, hok⟩ := bind_ok hok
    injection hok with hok
    exact ⟨tok, hm, rfl, by omega, by simpa using h2, hhm, hok.symm⟩

/-- An observed `TransferToChain` event: a deposit to a hub account, or a deposit to the module's
    temporary account followed by an outgoing transfer from it (`mf` is the `mintsFee` flag of
    `Mhub2.apply`: whether the handler mints amount + fee). -/
theorem handle_transfer_ok {h h' : Hub} {mf : Bool} {chain coin sender rchain receiver tx : String}
    {n ht : Nat} {amount fee : Int}
    (hok : h.handle mf chain (.transfer n coin amount fee sender rchain receiver ht tx) = .ok h') :
    h.hasChain rchain = true ∧
    ((rchain = "hub" ∧ validAccHex (strip0x receiver).toLower = true ∧
        h.handleSendToHub chain coin (ttcMintAmount mf amount fee) (strip0x receiver).toLower tx = .ok h') ∨
     (rchain ≠ "hub" ∧ ∃ v stok rtok comm id,
        h.handleSendToHub chain coin (ttcMintAmount mf amount fee) tempAddr tx = .ok v ∧
        v.tokenByExt chain coin = some stok ∧ v.tokenByDenom rchain stok.denom = some rtok ∧
        comm = commissionOf (v.commissionRateFor [sender, receiver] rtok.commission)
                 (v.fromExternal chain coin amount) ∧
        0 ≤ v.fromExternal chain coin fee ∧ 0 ≤ comm ∧
        v.fromExternal chain coin fee ≤ v.fromExternal chain coin amount - comm ∧
        v.createSte rchain tempAddr receiver rtok.denom
          (v.fromExternal chain coin amount - comm - v.fromExternal chain coin fee)
          (v.fromExternal chain coin fee) comm tx chain sender = .ok (h', id))) := by
  unfold Hub.handle failM panicM at hok
  obtain ⟨h1, hok⟩ := jp_ok hok
  refine ⟨by simpa using h1, ?_⟩
  by_cases hr : (rchain == "hub") = true
  · rw [if_pos hr] at hok
    obtain ⟨h2, hok⟩ := jp_ok hok
    exact .inl ⟨by simpa using hr, by simpa using h2, hok⟩
  · rw [if_neg hr] at hok
    obtain ⟨v, hv, hok⟩ := bind_ok hok
    cases hs : v.tokenByExt chain coin with
    | none => rw [hs] at hok; cases hok
    | some stok =>
      rw [hs] at hok
      dsimp only at hok
      cases hrt : v.tokenByDenom rchain stok.denom with
      | none => rw [hrt] at hok; cases hok
      | some rtok =>
        rw [hrt] at hok
        dsimp only at hok
        obtain ⟨g1, hok⟩ := jp_ok hok
        obtain ⟨g2, hok⟩ := jp_ok hok
        obtain ⟨g3, hok⟩ := jp_ok hok
        obtain ⟨g4, hok⟩ := jp_ok hok
        obtain ⟨g5, hok⟩ := jp_ok hok
        obtain ⟨r, hr', hok⟩ := bind_ok hok
        injection hok with hok
        subst hok
        exact .inr ⟨by simpa using hr, v, stok, rtok, _, r.2, hv, hs, hrt, rfl, by omega, by omega, by omega, hr'⟩

/-! ### `cancelSendToExternal` -/

/-- The entry `cancelSendToExternal` finds for an id (reverse iteration, last match wins). -/
def Hub.cancelLookup (h : Hub) (chain : String) (id : Nat) : Option Ste :=
  ((h.chain chain).pool.reverse.filter (fun s => s.id == id)).getLast?

def Hub.cancelFinish (h' : Hub) (chain : String) (s : Ste) : Hub :=
  let h' := h'.setStatus s.txHash stRefunded ""
  let c' := h'.chain chain
  h'.setChain chain { c' with pool := eraseByKey poolKey (poolKey s) c'.pool }

/-- The refund towards another chain is `createSendToExternal(ctx, send.RefundChainId, TempAddress,
    send.RefundAddress, totalToRefund, 0, 0, "#", "", "")` of pool.go: no fee, no commission, the
    constant hash `"#"`, and no refund chain of its own (so a cancel of it refunds the module account). -/
theorem cancelSte_eq (h : Hub) (chain : String) (id : Nat) (sender : String) :
    h.cancelSte chain id sender =
      match h.cancelLookup chain id with
      | none => (h, some (.fail "id not found in send to external pool"))
      | some s =>
        if sender != s.sender then (h, some (.fail "can't cancel a message you didn't send"))
        else if h.refundValue chain s < 0 then (h, some (.panic "negative coin amount"))
        else if s.refundChain == "" then
          ((h.bankWrite moduleAcc (h.denomOfTokenId s.tokenId) (h.refundValue chain s)).cancelFinish chain s, none)
        else if s.refundChain == "hub" then
          ((h.bankWrite sender (h.denomOfTokenId s.tokenId) (h.refundValue chain s)).cancelFinish chain s, none)
        else
          match (h.bankWrite tempAddr (h.denomOfTokenId s.tokenId) (h.refundValue chain s)).createSte
              s.refundChain tempAddr s.refundAddr (h.denomOfTokenId s.tokenId) (h.refundValue chain s) 0 0 "#" "" "" with
          | .error e => (h.bankWrite tempAddr (h.denomOfTokenId s.tokenId) (h.refundValue chain s), some e)
          | .ok (h2, _) => (h2.cancelFinish chain s, none) := by
  rfl

theorem cancelLookup_some {h : Hub} {chain : String} {id : Nat} {s : Ste}
    (hl : h.cancelLookup chain id = some s) : s ∈ (h.chain chain).pool ∧ s.id = id := by
  unfold Hub.cancelLookup at hl
  have := List.mem_of_getLast? hl
  rw [List.mem_filter, List.mem_reverse] at this
  exact ⟨this.1, by simpa using this.2⟩

theorem cancelLookup_none {h : Hub} {chain : String} {id : Nat}
    (hl : h.cancelLookup chain id = none) : ∀ s ∈ (h.chain chain).pool, s.id ≠ id := by
  unfold Hub.cancelLookup at hl
  rw [List.getLast?_eq_none_iff] at hl
  intro s hs hid
  have : s ∈ List.filter (fun s => s.id == id) (h.chain chain).pool.reverse := by
    rw [List.mem_filter, List.mem_reverse]; exact ⟨hs, by simpa using hid⟩
  rw [hl] at this; cases this

/-- The three ways `cancelSte` ends: it refuses and returns the state unchanged (a panic only for
    a negative refund value); it refunds on the hub (to the module account or to the sender) and
    removes the entry; or it mints the refund to the temporary account and sends it on to the
    refund chain, where a failing send leaves the minted refund and the entry behind. -/
theorem cancelSte_cases (h : Hub) (chain : String) (id : Nat) (sender : String) :
    (∃ e, h.cancelSte chain id sender = (h, some e) ∧
      ((∃ m, e = .fail m) ∨ ∃ s ∈ (h.chain chain).pool, h.refundValue chain s < 0)) ∨
    ∃ s, h.cancelLookup chain id = some s ∧ sender = s.sender ∧ 0 ≤ h.refundValue chain s ∧
      ((s.refundChain = "" ∧ h.cancelSte chain id sender =
          ((h.bankWrite moduleAcc (h.denomOfTokenId s.tokenId) (h.refundValue chain s)).cancelFinish chain s, none)) ∨
       (s.refundChain = "hub" ∧ h.cancelSte chain id sender =
          ((h.bankWrite sender (h.denomOfTokenId s.tokenId) (h.refundValue chain s)).cancelFinish chain s, none)) ∨
       (s.refundChain ≠ "" ∧ s.refundChain ≠ "hub" ∧
         ((∃ e, (h.bankWrite tempAddr (h.denomOfTokenId s.tokenId) (h.refundValue chain s)).createSte
              s.refundChain tempAddr s.refundAddr (h.denomOfTokenId s.tokenId) (h.refundValue chain s) 0 0 "#" "" ""
              = .error e ∧
            h.cancelSte chain id sender =
              (h.bankWrite tempAddr (h.denomOfTokenId s.tokenId) (h.refundValue chain s), some e)) ∨
          (∃ h2 n, (h.bankWrite tempAddr (h.denomOfTokenId s.tokenId) (h.refundValue chain s)).createSte
              s.refundChain tempAddr s.refundAddr (h.denomOfTokenId s.tokenId) (h.refundValue chain s) 0 0 "#" "" ""
              = .ok (h2, n) ∧
            h.cancelSte chain id sender = (h2.cancelFinish chain s, none))))) := by
  rw [cancelSte_eq]
  cases hl : h.cancelLookup chain id with
  | none => exact .inl ⟨_, rfl, .inl ⟨_, rfl⟩⟩
  | some s =>
    dsimp only
    by_cases h1 : (sender != s.sender) = true
    · rw [if_pos h1]; exact .inl ⟨_, rfl, .inl ⟨_, rfl⟩⟩
    rw [if_neg h1]
    by_cases h2 : h.refundValue chain s < 0
    · rw [if_pos h2]; exact .inl ⟨_, rfl, .inr ⟨s, (cancelLookup_some hl).1, h2⟩⟩
    rw [if_neg h2]
    refine .inr ⟨s, rfl, by simpa using h1, by omega, ?_⟩
    by_cases h3 : (s.refundChain == "") = true
    · rw [if_pos h3]; exact .inl ⟨by simpa using h3, rfl⟩
    rw [if_neg h3]
    by_cases h4 : (s.refundChain == "hub") = true
    · rw [if_pos h4]; exact .inr (.inl ⟨by simpa using h4, rfl⟩)
    rw [if_neg h4]
    refine .inr (.inr ⟨by simpa using h3, by simpa using h4, ?_⟩)
    cases hc : (h.bankWrite tempAddr (h.denomOfTokenId s.tokenId) (h.refundValue chain s)).createSte
        s.refundChain tempAddr s.refundAddr (h.denomOfTokenId s.tokenId) (h.refundValue chain s) 0 0 "#" "" "" with
    | error e => exact .inl ⟨e, rfl, rfl⟩
    | ok r => exact .inr ⟨r.1, r.2, rfl, rfl⟩

theorem cancelMsg_ok {h h' : Hub} {sender chain : String} {id : Nat} (hok : h.cancelMsg sender chain id = .ok h') :
    id ≠ 0 ∧ h.hasChain chain = true ∧ h.cancelSte chain id sender = (h', none) := by
  unfold Hub.cancelMsg failM at hok
  obtain ⟨h1, hok⟩ := ite_err_ok hok
  obtain ⟨h2, hok⟩ := ite_err_ok hok
  refine ⟨by simpa using h1, by simpa using h2, ?_⟩
  generalize h.cancelSte chain id sender = r at hok
  obtain ⟨a, _ | e⟩ := r
  · injection hok with hok; rw [hok]
  · cases hok

/-! ### Batches -/

theorem findBatch_some {h : Hub} {chain tok : String} {n : Nat} {b : Batch} (hf : h.findBatch chain tok n = some b) :
    b ∈ (h.chain chain).batches ∧ batchKey b = batchKeyOf tok n := by
  unfold Hub.findBatch at hf
  exact find?_key_eq batchKey hf

def Hub.markBatched (h : Hub) (sel : List Ste) : Hub :=
  sel.foldl (fun h s => h.setStatus s.txHash stBatchCreated "") h

theorem buildBatch_eq (h : Hub) (chain tok : String) (n : Nat) :
    h.buildBatch chain tok n =
      if (selectForBatch (h.chain chain).pool tok n).isEmpty then (h, none) else
      let sel := selectForBatch (h.chain chain).pool tok n
      let b : Batch := { nonce := (h.chain chain).lastBatchNonce + 1,
                         timeout := (h.markBatched sel).batchTimeoutHeight chain,
                         height := (h.markBatched sel).height, seq := (h.chain chain).outSeq + 1,
                         extToken := tok, txs := sel }
      ((h.markBatched sel).setChain chain { h.chain chain with
          pool := sel.foldl (fun p s => eraseByKey poolKey (poolKey s) p) (h.chain chain).pool,
          lastBatchNonce := b.nonce, outSeq := b.seq,
          batches := insertByKey batchKey b (h.chain chain).batches }, some b) := by
  rfl

theorem markBatched_frame (h : Hub) (sel : List Ste) :
    h.markBatched sel = { h with status := (h.markBatched sel).status } := by
  unfold Hub.markBatched
  induction sel generalizing h with
  | nil => rfl
  | cons s rest ih => rw [List.foldl_cons, ih]; rfl

theorem requestBatch_ok {h h' : Hub} {chain denom : String} {ob : Option Batch}
    (hok : h.requestBatch chain denom = .ok (h', ob)) :
    h.hasChain chain = true ∧ ∃ t, h.tokenByDenom chain denom = some t ∧
      h.buildBatch chain t.extId 100 = (h', ob) := by
  unfold Hub.requestBatch failM at hok
  obtain ⟨h1, hok⟩ := ite_err_ok hok
  refine ⟨by simpa using h1, ?_⟩
  cases ht : h.tokenByDenom chain denom with
  | none => rw [ht] at hok; cases hok
  | some t => rw [ht] at hok; injection hok with hok; exact ⟨t, rfl, hok⟩

theorem cancelBatch_ok {h h' : Hub} {chain tok : String} {n : Nat} (hok : h.cancelBatch chain tok n = .ok h') :
    chain ≠ "minter" ∧ ∃ b, h.findBatch chain tok n = some b ∧
      h' = h.setChain chain { (h.chain chain) with
        pool := b.txs.foldl (fun p s => insertByKey poolKey s p) (h.chain chain).pool,
        batches := eraseByKey batchKey (batchKey b) (h.chain chain).batches } := by
  unfold Hub.cancelBatch panicM at hok
  obtain ⟨h1, hok⟩ := ite_err_ok hok
  refine ⟨by simpa using h1, ?_⟩
  cases hb : h.findBatch chain tok n with
  | none => rw [hb] at hok; cases hok
  | some b => rw [hb] at hok; injection hok with hok; exact ⟨b, rfl, hok.symm⟩

theorem mem_selectForBatch {pool : List Ste} {tok : String} {maxN : Nat} {t : Ste}
    (h : t ∈ selectForBatch pool tok maxN) : t ∈ pool ∧ t.extToken = tok := by
  unfold selectForBatch at h
  have h := List.mem_of_mem_take h
  rw [List.mem_reverse, List.mem_filter] at h
  refine ⟨h.1, ?_⟩
  have := h.2
  simp only [Bool.and_eq_true, beq_iff_eq] at this
  exact this.2

/-- `u` is in flight on the chain: in the pool or in a stored batch.  (`u ∈ c.entries` of
    Mhub2/Value, spelt as the store operations change it; `ChainSt.has_iff_mem_entries`.) -/
def ChainSt.Has (c : ChainSt) (u : Ste) : Prop := u ∈ c.pool ∨ ∃ b ∈ c.batches, u ∈ b.txs

theorem ChainSt.Has.mono {a b : ChainSt} {u : Ste} (hu : b.Has u) (hp : ∀ v ∈ b.pool, v ∈ a.pool)
    (hb : ∀ x ∈ b.batches, x ∈ a.batches) : a.Has u :=
  hu.imp (hp u) fun ⟨x, hx, hu⟩ => ⟨x, hb x hx, hu⟩

theorem ChainSt.Has.of_insert {c c' : ChainSt} {new u : Ste} (hu : c'.Has u)
    (hp : c'.pool = insertByKey poolKey new c.pool) (hb : c'.batches = c.batches) : u = new ∨ c.Has u := by
  rw [ChainSt.Has, hp, hb] at hu
  rcases hu with hu | hu
  · exact (mem_insertByKey_cases poolKey hu).imp id .inl
  · exact .inr (.inr hu)

theorem ChainSt.Has.of_cancelBatch {c c' : ChainSt} {b : Batch} {u : Ste} (hu : c'.Has u) (hm : b ∈ c.batches)
    (hp : c'.pool = b.txs.foldl (fun p s => insertByKey poolKey s p) c.pool)
    (hb : c'.batches = eraseByKey batchKey (batchKey b) c.batches) : c.Has u := by
  rw [ChainSt.Has, hp, hb] at hu
  rcases hu with hu | ⟨x, hx, hu⟩
  · rcases mem_of_mem_foldl_insertByKey poolKey hu with hu' | hu'
    · exact .inr ⟨b, hm, hu'⟩
    · exact .inl hu'
  · exact .inr ⟨x, mem_of_mem_eraseByKey batchKey hx, hu⟩

theorem ChainSt.Has.of_buildBatch {c c' : ChainSt} {b : Batch} {u : Ste} (hu : c'.Has u)
    (hp : ∀ x ∈ c'.pool, x ∈ c.pool) (hb : c'.batches = insertByKey batchKey b c.batches)
    (htx : ∀ x ∈ b.txs, x ∈ c.pool) : c.Has u := by
  rcases hu with hu | ⟨x, hx, hu⟩
  · exact .inl (hp u hu)
  · rw [hb] at hx
    rcases mem_insertByKey_cases batchKey hx with rfl | hx'
    · exact .inl (htx u hu)
    · exact .inr ⟨x, hx', hu⟩

/-! ### Votes, confirmations, delegate keys -/

theorem signerValidator_ok {h : Hub} {chain signer v : String} (hok : h.signerValidator chain signer = .ok v) :
    ∃ val ∈ h.staking, val.addr = v ∧ val.bonded = true ∧
      (alGet (h.chain chain).orchVal signer = some v ∨
       (alGet (h.chain chain).orchVal signer = none ∧ v = signer)) := by
  unfold Hub.signerValidator Hub.validator? failM at hok
  dsimp only at hok
  generalize hf : List.find? _ h.staking = o at hok
  cases o with
  | none => cases hok
  | some val =>
    dsimp only at hok
    by_cases hb : val.bonded = true
    · rw [if_pos hb] at hok
      injection hok with hok
      have hp := List.find?_some hf
      refine ⟨val, List.mem_of_find?_eq_some hf, hok, hb, ?_⟩
      rw [← hok]
      cases hg : alGet (h.chain chain).orchVal signer with
      | none => rw [hg] at hp; exact .inr ⟨rfl, by simpa using hp⟩
      | some x => rw [hg] at hp; exact .inl (by rw [show val.addr = x by simpa using hp])
    · rw [if_neg hb] at hok; cases hok

def voteBase (c : ChainSt) (ev : Event) (hash : Bytes) : VoteRec :=
  match c.records.find? (fun r => recKey r == be8 ev.nonce ++ hash) with
  | some r => r
  | none => { nonce := ev.nonce, hash := hash, ev := ev, votes := [], accepted := false }

theorem voteBase_ind {c : ChainSt} {ev : Event} {hash : Bytes} {P : VoteRec → Prop}
    (hs : ∀ r ∈ c.records, recKey r = be8 ev.nonce ++ hash → P r)
    (hf : P { nonce := ev.nonce, hash := hash, ev := ev, votes := [], accepted := false }) :
    P (voteBase c ev hash) := by
  unfold voteBase
  cases hfind : c.records.find? (fun r => recKey r == be8 ev.nonce ++ hash) with
  | some r => exact hs r (find?_key_eq recKey hfind).1 (find?_key_eq recKey hfind).2
  | none => exact hf

def votedRec (c : ChainSt) (ev : Event) (hash : Bytes) (v : String) : VoteRec :=
  { voteBase c ev hash with votes := (voteBase c ev hash).votes ++ [v] }

theorem recordVote_ok {c c' : ChainSt} {ev : Event} {hash : Bytes} {v : String}
    (h : c.recordVote ev hash v = .ok c') :
    (c.lastNonceOf v = 0 ∨ ev.nonce = c.lastNonceOf v + 1) ∧
    c' = { c with records := insertByKey recKey (votedRec c ev hash v) c.records,
                  lastNonceBy := alSet c.lastNonceBy v ev.nonce } := by
  unfold ChainSt.recordVote failM at h
  obtain ⟨hc, h⟩ := ite_err_ok h
  injection h with h
  refine ⟨?_, h.symm⟩
  by_cases h0 : c.lastNonceOf v = 0
  · exact .inl h0
  · by_cases h1 : ev.nonce = c.lastNonceOf v + 1
    · exact .inr h1
    · exact absurd (by simp [h0, h1]) hc

theorem submitEvent_ok {h h' : Hub} {chain signer : String} {ev : Event}
    (hok : h.submitEvent chain signer ev = .ok h') :
    h.hasChain chain = true ∧ ∃ v c, h.signerValidator chain signer = .ok v ∧
      (h.chain chain).recordVote ev ev.hash v = .ok c ∧ h' = h.setChain chain c := by
  unfold Hub.submitEvent failM at hok
  obtain ⟨h1, hok⟩ := jp_ok hok
  obtain ⟨v, hv, hok⟩ := bind_ok hok
  obtain ⟨c, hc, hok⟩ := bind_ok hok
  injection hok with hok
  exact ⟨by simpa using h1, v, c, hv, hc, hok.symm⟩

def ConfKind.nonce : ConfKind → Nat
  | .set n => n
  | .batch _ n => n

theorem confirm_ok {h h' : Hub} {chain signer ext sig : String} {k : ConfKind}
    (hok : h.confirm chain signer k ext sig = .ok h') :
    k.nonce ≠ 0 ∧ h.hasChain chain = true ∧
    ∃ v, h.signerValidator chain signer = .ok v ∧ h.outgoingExists chain k = true ∧
      alGet (h.chain chain).valExt v = some ext ∧ ext ≠ zeroEth ∧
      (∀ r ∈ (h.chain chain).sigs, sigKey r ≠ k.index chain ++ hexToBytes v) ∧
      h' = h.setChain chain { h.chain chain with
        sigs := insertByKey sigKey ⟨k.index chain, v, sig⟩ (h.chain chain).sigs } := by
  unfold Hub.confirm at hok
  extract_lets +onlyGivenNames n at hok
  have hkn : n = k.nonce := by cases k <;> rfl
  clear_value n
  subst hkn
  obtain ⟨hn, hok⟩ := jp_ok hok
  obtain ⟨hc, hok⟩ := jp_ok hok
  obtain ⟨v, hv, hok⟩ := bind_ok hok
  obtain ⟨ho, hok⟩ := jp_ok hok
  obtain ⟨hz, hok⟩ := jp_ok hok
  obtain ⟨he, hok⟩ := jp_ok hok
  obtain ⟨hd, hok⟩ := jp_ok hok
  injection hok with hok
  have he' : (alGet (h.chain chain).valExt v).getD zeroEth = ext := by simpa using he
  refine ⟨by simpa using hn, by simpa using hc, v, hv, by simpa using ho, ?_, ?_, ?_, hok.symm⟩
  · cases hg : alGet (h.chain chain).valExt v with
    | none => rw [hg] at hz; simp at hz
    | some e => rw [hg] at he'; simpa using he'
  · rw [he'] at hz
    simpa using hz
  · intro r hr e
    exact hd (List.any_eq_true.mpr ⟨r, hr, by rw [beq_iff_eq]; exact e⟩)

theorem setDelegateKeys_ok {h h' : Hub} {chain val orch eth signedBy signedVal : String}
    {signedNonce accSeq : Nat}
    (hok : h.setDelegateKeys chain val orch eth signedBy signedVal signedNonce accSeq = .ok h') :
    (h.validator? val).isSome = true ∧
    (∀ p ∈ (h.chain chain).valExt, p.2 ≠ eth) ∧
    (∀ p ∈ (h.chain chain).extOrch, p.2 ≠ orch) ∧
    signedBy = eth ∧ signedVal = val ∧ signedNonce = (if accSeq > 0 then accSeq - 1 else 0) ∧
    h' = h.setChain chain { h.chain chain with
      orchVal := alSet (h.chain chain).orchVal orch val,
      valExt := alSet (h.chain chain).valExt val eth,
      extOrch := alSet (h.chain chain).extOrch eth orch } := by
  unfold Hub.setDelegateKeys failM at hok
  obtain ⟨hv, hok⟩ := jp_ok hok
  obtain ⟨he, hok⟩ := jp_ok hok
  obtain ⟨ho, hok⟩ := jp_ok hok
  obtain ⟨hs, hok⟩ := jp_ok hok
  injection hok with hok
  simp only [Bool.not_eq_true', Bool.not_eq_false, Bool.and_eq_true, beq_iff_eq] at hs
  refine ⟨?_, ?_, ?_, hs.1.1, hs.1.2, hs.2, hok.symm⟩
  · cases hx : h.validator? val with
    | none => rw [hx] at hv; exact absurd rfl hv
    | some x => rfl
  · intro p hp e
    exact he (List.any_eq_true.mpr ⟨p, hp, by simp [e]⟩)
  · intro p hp e
    exact ho (List.any_eq_true.mpr ⟨p, hp, by simp [e]⟩)

theorem tryRecord_cases (h : Hub) (mf : Bool) (chain : String) (r : VoteRec) :
    (r.nonce = (h.chain chain).lastObserved + 1 ∧ r.accepted = true ∧
      h.tryRecord mf chain r = .error (.panic "attempting to process observed external event")) ∨
    ((h.chain chain).accepts h.lastPower h.requiredPower r = false ∧ h.tryRecord mf chain r = .ok h) ∨
    ((h.chain chain).accepts h.lastPower h.requiredPower r = true ∧
      ((∃ h', (h.setChain chain ((h.chain chain).markObserved r h.height)).handle mf chain r.ev = .ok h' ∧
          h.tryRecord mf chain r = .ok h') ∨
       ((∃ e, (h.setChain chain ((h.chain chain).markObserved r h.height)).handle mf chain r.ev = .error e) ∧
          h.tryRecord mf chain r = .ok (h.setChain chain ((h.chain chain).markObserved r h.height))))) := by
  unfold Hub.tryRecord panicM
  dsimp only [bind, Except.bind, pure, Except.pure]
  by_cases h1 : (r.nonce == (h.chain chain).lastObserved + 1 && r.accepted) = true
  · rw [if_pos h1]
    simp only [Bool.and_eq_true, beq_iff_eq] at h1
    exact .inl ⟨h1.1, h1.2, rfl⟩
  rw [if_neg h1]
  cases ha : (h.chain chain).accepts h.lastPower h.requiredPower r with
  | false => exact .inr (.inl ⟨rfl, rfl⟩)
  | true =>
    refine .inr (.inr ⟨rfl, ?_⟩)
    cases hh : (h.setChain chain ((h.chain chain).markObserved r h.height)).handle mf chain r.ev with
    | ok h' => exact .inl ⟨h', rfl, rfl⟩
    | error e => exact .inr ⟨⟨e, rfl⟩, rfl⟩

/-! ### `batchTxExecuted` in pieces -/

def Hub.bexCancelOlder (h : Hub) (chain : String) (b : Batch) : M Hub :=
  if chain != "minter" then
    ((h.chain chain).batches.reverse.filter fun o => o.nonce < b.nonce && o.extToken == b.extToken).foldlM
      (fun (h : Hub) o => h.cancelBatch chain o.extToken o.nonce) h
  else pure h

theorem bexCancelOlder_rel {R : Hub → Hub → Prop} (hrefl : ∀ a, R a a) (htrans : ∀ {a b c}, R a b → R b c → R a c)
    {chain : String} {b : Batch}
    (hc : ∀ {a a'} (o : Batch), o.nonce < b.nonce → a.cancelBatch chain o.extToken o.nonce = .ok a' → R a a')
    {h v : Hub} (hv : h.bexCancelOlder chain b = .ok v) : R h v := by
  unfold Hub.bexCancelOlder at hv
  by_cases hm : (chain != "minter") = true
  · rw [if_pos hm] at hv
    refine foldlM_rel R hrefl htrans _ (fun _ o _ ho e => hc o ?_ e) hv
    have := (List.mem_filter.mp ho).2
    simp only [Bool.and_eq_true, decide_eq_true_eq] at this
    exact this.1
  · rw [if_neg hm] at hv; injection hv with hv; subst hv; exact hrefl _

def Hub.bexMark (h : Hub) (b : Batch) (txHash : String) : Hub :=
  b.txs.foldl (fun (h : Hub) t =>
      let h := h.setStatus t.txHash stBatchExecuted txHash
      { h with feeRec := alSet h.feeRec t.txHash (t.comm, t.fee) }) h

/-- A module-initiated transfer to Minter; its failure is a panic of the handler. -/
def Hub.bexSend (h : Hub) (rcp denom : String) (amount : Int) (tx : String) : M Hub :=
  match h.createSte "minter" tempAddr rcp denom amount 0 0 tx "" "" with
  | .ok (h, _) => pure h
  | .error (.fail m) => panicM m
  | .error e => .error e

def Hub.bexCommission (h : Hub) (tok : TokenInfo) (totalComm : Int) : M Hub :=
  if totalComm > 0 then do
      let valset ← h.currentSigners "minter"
      let totalPower := sumNats (valset.map (·.power))
      let h ← h.mintTo tempAddr tok.denom totalComm
      valset.foldlM (fun (h : Hub) v => do
        if totalPower == 0 then panicM "division by zero"
        let amount := commissionShare totalComm v.power totalPower
        if amount ≤ 0 then return h
        h.bexSend v.addr tok.denom amount "#commission") h
    else pure h

/-- One pro-rata refund of the fee remainder (`hc` is the state the conversion closure captured). -/
def Hub.bexRefundStep (hc : Hub) (chain : String) (tok : TokenInfo) (feeLeft avg good : Int)
    (h : Hub) (t : Ste) : M Hub := do
  let cf := hc.fromExternal chain tok.extId t.fee
  if cf < avg then return h
  if good == 0 then panicM "division by zero"
  let toRefund := refundShare feeLeft cf good
  if t.refundChain != "minter" then return h
  if toRefund ≤ 0 then return h
  let h ← h.bexSend t.refundAddr tok.denom toRefund "#fee"
  match alGet h.feeRec t.txHash with
  | none => panicM "nil fee record"
  | some (vc, ef) =>
    return { h with feeRec := alSet h.feeRec t.txHash (vc, feeKept ef (h.toExternal chain tok.extId toRefund)) }

def Hub.bexPay (h : Hub) (chain : String) (tok : TokenInfo) (b : Batch) (totalFee fee : Int)
    (feePayer : String) : M Hub := do
  if fee ≤ 0 then return h
  let h ← h.mintTo tempAddr tok.denom fee
  let h ← h.bexSend feePayer tok.denom fee "#fee"
  let feeLeft := totalFee - fee
  if feeLeft ≤ 0 then return h
  let h ← h.mintTo tempAddr tok.denom feeLeft
  let n : Int := b.txs.length
  if n == 0 then panicM "division by zero"
  let avg := Int.tdiv fee n
  let good := goodFees (b.txs.map fun t => h.fromExternal chain tok.extId t.fee) avg
  b.txs.foldlM (Hub.bexRefundStep h chain tok feeLeft avg good) h

/-- The fees of an executed batch (batch.go): nothing on a chain without base coin (only "ethereum" →
    "eth" and "bsc" → "bnb" have one); otherwise the relayer is reimbursed his gas cost, converted
    at the oracle's prices (a missing price is `MustGetTokenPrice`'s panic) and capped by the fees. -/
def Hub.bexFees (h : Hub) (chain : String) (tok : TokenInfo) (b : Batch) (totalFee feePaid : Int)
    (feePayer : String) : M Hub := do
  if totalFee ≤ 0 then return h
  let base ← (if chain == "ethereum" then pure (some "eth")
              else if chain == "bsc" then pure (some "bnb") else pure none : M (Option String))
  let some baseCoin := base | return h
  let some pBase := alGet h.prices baseCoin | panicM "price not found"
  let some pTok := alGet h.prices tok.denom | panicM "price not found"
  if pTok == 0 then panicM "division by zero"
  let amount := gasCostInToken feePaid pBase pTok
  if amount < 0 then panicM "negative coin amount"
  h.bexPay chain tok b totalFee (reimbursement amount totalFee) feePayer

def Hub.bexDistribute (h : Hub) (chain : String) (b : Batch) (txHash : String) (feePaid : Int)
    (feePayer : String) : M Hub := do
  let some tok := h.tokenByExt chain b.extToken | panicM "token not found"
  let h := h.bexMark b txHash
  let totalComm := h.fromExternal chain tok.extId (sumInts (b.txs.map (·.comm)))
  let totalFee := h.fromExternal chain tok.extId (sumInts (b.txs.map (·.fee)))
  let h ← h.bexCommission tok totalComm
  h.bexFees chain tok b totalFee feePaid feePayer

theorem batchExecuted_eq (h : Hub) (chain extToken : String) (nonce : Nat) (txHash : String)
    (feePaid : Int) (feePayer : String) :
    h.batchExecuted chain extToken nonce txHash feePaid feePayer = (do
      let some b := h.findBatch chain extToken nonce | return h
      let h ← h.bexCancelOlder chain b
      let c := h.chain chain
      (h.setChain chain { c with batches := eraseByKey batchKey (batchKey b) c.batches }).bexDistribute
        chain b txHash feePaid feePayer) := by
  rfl

theorem batchExecuted_ok {h h' : Hub} {chain tok tx payer : String} {n : Nat} {fp : Int}
    (hok : h.batchExecuted chain tok n tx fp payer = .ok h') :
    (h.findBatch chain tok n = none ∧ h' = h) ∨
    ∃ b v, h.findBatch chain tok n = some b ∧ h.bexCancelOlder chain b = .ok v ∧
      (v.setChain chain { v.chain chain with
          batches := eraseByKey batchKey (batchKey b) (v.chain chain).batches }).bexDistribute
        chain b tx fp payer = .ok h' := by
  rw [batchExecuted_eq] at hok
  cases hb : h.findBatch chain tok n with
  | none => rw [hb] at hok; injection hok with hok; exact .inl ⟨rfl, hok.symm⟩
  | some b =>
    rw [hb] at hok
    obtain ⟨v, hv, hok⟩ := bind_ok hok
    exact .inr ⟨b, v, rfl, hv, hok⟩

theorem batchExecuted_none {h h' : Hub} {chain tok tx payer : String} {n : Nat} {fp : Int}
    (hok : h.batchExecuted chain tok n tx fp payer = .ok h') (hfb : h.findBatch chain tok n = none) : h' = h := by
  rw [batchExecuted_eq, hfb] at hok
  injection hok with hok
  exact hok.symm

/-- What a relation between hub states needs in order to hold across the fee distribution of an
    executed batch: the distribution only writes the bank and the status and fee tables, and sends
    positive amounts from the temporary account to Minter. -/
structure MintClosed (R : Hub → Hub → Prop) : Prop where
  refl : ∀ a, R a a
  trans : ∀ {a b c}, R a b → R b c → R a c
  bank : ∀ {a b : Hub}, b = { a with bal := b.bal, supply := b.supply, feeRec := b.feeRec } → R a b
  status : ∀ (a : Hub) (tx : String) (st : Nat) (o : String), R a (a.setStatus tx st o)
  send : ∀ {a b : Hub} {rcp denom tx : String} {amt : Int} {id : Nat}, 0 < amt →
    a.createSte "minter" tempAddr rcp denom amt 0 0 tx "" "" = .ok (b, id) → R a b

section distribute
variable {R : Hub → Hub → Prop} (hR : MintClosed R)
include hR

theorem mintTo_rel {h h' : Hub} {acc d : String} {amt : Int} (hm : h.mintTo acc d amt = .ok h') : R h h' := by
  have := mintTo_frame hm
  exact hR.bank (by rw [this])

theorem bexSend_rel {h h' : Hub} {rcp denom tx : String} {amount : Int} (ha : 0 < amount)
    (hok : h.bexSend rcp denom amount tx = .ok h') : R h h' := by
  unfold Hub.bexSend panicM at hok
  cases hc : h.createSte "minter" tempAddr rcp denom amount 0 0 tx "" "" with
  | ok r =>
    rw [hc] at hok
    injection hok with hok
    subst hok
    exact hR.send ha hc
  | error e => rw [hc] at hok; cases e <;> cases hok

theorem bexMark_rel (h : Hub) (b : Batch) (tx : String) : R h (h.bexMark b tx) :=
  foldl_rel R hR.refl hR.trans _
    (fun a t _ => hR.trans (hR.status a t.txHash stBatchExecuted tx) (hR.bank rfl)) h

theorem bexCommission_rel {h h' : Hub} {tok : TokenInfo} {totalComm : Int}
    (hok : h.bexCommission tok totalComm = .ok h') : R h h' := by
  unfold Hub.bexCommission panicM at hok
  by_cases hc : totalComm > 0
  · rw [if_pos hc] at hok
    obtain ⟨valset, _, hok⟩ := bind_ok hok
    obtain ⟨hm, hmint, hok⟩ := bind_ok hok
    refine hR.trans (mintTo_rel hR hmint) (foldlM_rel R hR.refl hR.trans _ (fun a v a' _ e => ?_) hok)
    obtain ⟨_, e⟩ := jp_ok e
    by_cases hs : commissionShare totalComm v.power (sumNats (valset.map (·.power))) ≤ 0
    · rw [if_pos hs] at e; injection e with e; subst e; exact hR.refl _
    · rw [if_neg hs] at e; exact bexSend_rel hR (by omega) e
  · rw [if_neg hc] at hok; injection hok with hok; subst hok; exact hR.refl _

theorem bexRefundStep_rel {hc h h' : Hub} {chain : String} {tok : TokenInfo} {feeLeft avg good : Int} {t : Ste}
    (hok : hc.bexRefundStep chain tok feeLeft avg good h t = .ok h') : R h h' := by
  unfold Hub.bexRefundStep panicM at hok
  dsimp only at hok
  by_cases h1 : hc.fromExternal chain tok.extId t.fee < avg
  · rw [if_pos h1] at hok; injection hok with hok; subst hok; exact hR.refl _
  rw [if_neg h1] at hok
  obtain ⟨_, hok⟩ := jp_ok hok
  by_cases h2 : (t.refundChain != "minter") = true
  · rw [if_pos h2] at hok; injection hok with hok; subst hok; exact hR.refl _
  rw [if_neg h2] at hok
  by_cases h3 : refundShare feeLeft (hc.fromExternal chain tok.extId t.fee) good ≤ 0
  · rw [if_pos h3] at hok; injection hok with hok; subst hok; exact hR.refl _
  rw [if_neg h3] at hok
  obtain ⟨a, ha, hok⟩ := bind_ok hok
  refine hR.trans (bexSend_rel hR (by omega) ha) ?_
  cases hf : alGet a.feeRec t.txHash with
  | none => rw [hf] at hok; cases hok
  | some p => rw [hf] at hok; injection hok with hok; subst hok; exact hR.bank rfl

theorem bexPay_rel {h h' : Hub} {chain : String} {tok : TokenInfo} {b : Batch} {totalFee fee : Int}
    {payer : String} (hok : h.bexPay chain tok b totalFee fee payer = .ok h') : R h h' := by
  unfold Hub.bexPay panicM at hok
  by_cases h1 : fee ≤ 0
  · rw [if_pos h1] at hok; injection hok with hok; subst hok; exact hR.refl _
  rw [if_neg h1] at hok
  obtain ⟨a, ha, hok⟩ := bind_ok hok
  obtain ⟨a2, ha2, hok⟩ := bind_ok hok
  refine hR.trans (hR.trans (mintTo_rel hR ha) (bexSend_rel hR (by omega) ha2)) ?_
  dsimp only at hok
  by_cases h2 : totalFee - fee ≤ 0
  · rw [if_pos h2] at hok; injection hok with hok; subst hok; exact hR.refl _
  rw [if_neg h2] at hok
  obtain ⟨a3, ha3, hok⟩ := bind_ok hok
  obtain ⟨_, hok⟩ := jp_ok hok
  exact hR.trans (mintTo_rel hR ha3)
    (foldlM_rel R hR.refl hR.trans _ (fun _ _ _ _ e => bexRefundStep_rel hR e) hok)

theorem bexFees_rel {h h' : Hub} {chain : String} {tok : TokenInfo} {b : Batch} {totalFee feePaid : Int}
    {payer : String} (hok : h.bexFees chain tok b totalFee feePaid payer = .ok h') : R h h' := by
  unfold Hub.bexFees panicM at hok
  by_cases h1 : totalFee ≤ 0
  · rw [if_pos h1] at hok; injection hok with hok; subst hok; exact hR.refl _
  rw [if_neg h1] at hok
  obtain ⟨base, _, hok⟩ := bind_ok hok
  cases base with
  | none => injection hok with hok; subst hok; exact hR.refl _
  | some bc =>
    dsimp only at hok
    cases hp : alGet h.prices bc with
    | none => rw [hp] at hok; cases hok
    | some pBase =>
      rw [hp] at hok
      dsimp only at hok
      cases hq : alGet h.prices tok.denom with
      | none => rw [hq] at hok; cases hok
      | some pTok =>
        rw [hq] at hok
        obtain ⟨_, hok⟩ := jp_ok hok
        obtain ⟨_, hok⟩ := jp_ok hok
        exact bexPay_rel hR hok

theorem bexDistribute_rel {h h' : Hub} {chain tx payer : String} {b : Batch} {fp : Int}
    (hok : h.bexDistribute chain b tx fp payer = .ok h') : R h h' := by
  unfold Hub.bexDistribute panicM at hok
  cases ht : h.tokenByExt chain b.extToken with
  | none => rw [ht] at hok; cases hok
  | some t =>
    rw [ht] at hok
    obtain ⟨v, hv, hok⟩ := bind_ok hok
    exact hR.trans (hR.trans (bexMark_rel hR h b tx) (bexCommission_rel hR hv)) (bexFees_rel hR hok)

end distribute

/-! ### The writes of the event handler and the ledger messages, as a trace

Everything the handler side of the model writes is one of a few primitive store moves.  A relation
between hub states that is reflexive, transitive and holds across each primitive move therefore
holds across `handle`, `cancelSte`, `sendToExternal`, the expiry sweep, … (`induction` on `Moves`).
Building a batch is not among them: only `MsgRequestBatchTx` and `BeginBlocker` do that.  The flag
`b` of `MovesB b` says whether the trace may withdraw stored batches (`cancelBatch`, `eraseBatch`):
only an observed execution and the sweep of timed-out batches do.  The lemmas of the operations that
never do (`cancelSte`, `sendToExternal`, deposits, the expiry sweep) are stated for an arbitrary
`b`, and a relation that needs the batch stores untouched is proved across `MovesB false`. -/

inductive MovesB (b : Bool) : Hub → Hub → Prop
  | refl (h : Hub) : MovesB b h h
  | trans {a m c : Hub} : MovesB b a m → MovesB b m c → MovesB b a c
  | bank {h h' : Hub} : h' = { h with bal := h'.bal, supply := h'.supply, feeRec := h'.feeRec } → MovesB b h h'
  | status (h : Hub) (tx : String) (st : Nat) (o : String) : MovesB b h (h.setStatus tx st o)
  | create {h h' : Hub} {chain sender rcp denom tx rc ra : String} {a f cm : Int} {id : Nat} :
      0 ≤ a → 0 ≤ f → 0 ≤ cm → h.createSte chain sender rcp denom a f cm tx rc ra = .ok (h', id) → MovesB b h h'
  | erasePool (h : Hub) (chain : String) (k : Bytes) :
      MovesB b h (h.setChain chain { h.chain chain with pool := eraseByKey poolKey k (h.chain chain).pool })
  | cancelBatch {h h' : Hub} {chain tok : String} {n : Nat} :
      h.cancelBatch chain tok n = .ok h' → b = true → MovesB b h h'
  | eraseBatch (h : Hub) (chain : String) (k : Bytes) : b = true →
      MovesB b h (h.setChain chain { h.chain chain with batches := eraseByKey batchKey k (h.chain chain).batches })
  | observedSet (h : Hub) (chain : String) (x : Option (Nat × List Signer)) :
      MovesB b h (h.setChain chain { h.chain chain with lastObservedSet := x })

abbrev Moves := MovesB true

theorem MovesB.mintClosed {b : Bool} : MintClosed (MovesB b) where
  refl := .refl
  trans := .trans
  bank := .bank
  status := .status
  send := fun ha hc => .create (Int.le_of_lt ha) (Int.le_refl 0) (Int.le_refl 0) hc

theorem mintTo_moves {b : Bool} {h h' : Hub} {acc d : String} {amt : Int} (hm : h.mintTo acc d amt = .ok h') :
    MovesB b h h' :=
  mintTo_rel MovesB.mintClosed hm

theorem bankWrite_moves {b : Bool} (h : Hub) (acc denom : String) (total : Int) :
    MovesB b h (h.bankWrite acc denom total) := by
  have := bankWrite_frame h acc denom total
  exact .bank (by rw [this])

theorem handleSendToHub_moves {b : Bool} {h h' : Hub} {chain coin receiver tx : String} {amount : Int}
    (hok : h.handleSendToHub chain coin amount receiver tx = .ok h') : MovesB b h h' := by
  obtain ⟨_, hm, _, _, _, hmint, rfl⟩ := handleSendToHub_ok hok
  exact (mintTo_moves hmint).trans (.status _ _ _ _)

theorem cancelFinish_moves {b : Bool} (h : Hub) (chain : String) (s : Ste) : MovesB b h (h.cancelFinish chain s) :=
  (MovesB.status h s.txHash stRefunded "").trans (.erasePool _ chain (poolKey s))

theorem cancelSte_moves {b : Bool} (h : Hub) (chain : String) (id : Nat) (sender : String) :
    MovesB b h (h.cancelSte chain id sender).1 := by
  rcases cancelSte_cases h chain id sender with ⟨_, e, _⟩ | ⟨s, _, _, hnn, ⟨_, e⟩ | ⟨_, e⟩ | ⟨_, _, ⟨_, _, e⟩ | ⟨h2, _, hc, e⟩⟩⟩
  · rw [e]; exact .refl _
  · rw [e]; exact (bankWrite_moves _ _ _ _).trans (cancelFinish_moves _ _ _)
  · rw [e]; exact (bankWrite_moves _ _ _ _).trans (cancelFinish_moves _ _ _)
  · rw [e]; exact bankWrite_moves _ _ _ _
  · rw [e]
    exact ((bankWrite_moves _ _ _ _).trans (.create hnn (Int.le_refl 0) (Int.le_refl 0) hc)).trans
      (cancelFinish_moves _ _ _)

theorem cancelMsg_moves {b : Bool} {h h' : Hub} {sender chain : String} {id : Nat}
    (hok : h.cancelMsg sender chain id = .ok h') : MovesB b h h' := by
  have := cancelSte_moves (b := b) h chain id sender
  rw [(cancelMsg_ok hok).2.2] at this
  exact this

theorem sendToExternal_moves {b : Bool} {h h' : Hub} {sender chain rcp denom tx : String} {amount fee : Int}
    {id : Nat} (hok : h.sendToExternal sender chain rcp denom amount fee tx = .ok (h', id)) : MovesB b h h' := by
  obtain ⟨_, comm, _, _, _, _, _, _, _, hc⟩ := sendToExternal_ok hok
  exact .create (by omega) (by omega) (by omega) hc

theorem bexCancelOlder_moves {h h' : Hub} {chain : String} {b : Batch}
    (hok : h.bexCancelOlder chain b = .ok h') : Moves h h' :=
  bexCancelOlder_rel MovesB.refl MovesB.trans (fun _ _ e => .cancelBatch e rfl) hok

theorem batchExecuted_moves {h h' : Hub} {chain tok tx payer : String} {n : Nat} {fp : Int}
    (hok : h.batchExecuted chain tok n tx fp payer = .ok h') : Moves h h' := by
  rcases batchExecuted_ok hok with ⟨_, rfl⟩ | ⟨b, v, _, hv, hd⟩
  · exact .refl _
  · exact ((bexCancelOlder_moves hv).trans (.eraseBatch v chain (batchKey b) rfl)).trans
      (bexDistribute_rel MovesB.mintClosed hd)

theorem handle_moves {h h' : Hub} {mf : Bool} {chain : String} {ev : Event}
    (hok : h.handle mf chain ev = .ok h') : Moves h h' := by
  cases ev with
  | sendToHub n coin amount sender receiver height txHash => exact handleSendToHub_moves hok
  | transfer n coin amount fee sender rchain receiver height txHash =>
    rcases (handle_transfer_ok hok).2 with ⟨_, _, e⟩ | ⟨_, v, _, _, comm, _, hv, _, _, _, _, _, _, hc⟩
    · exact handleSendToHub_moves e
    · exact (handleSendToHub_moves hv).trans (.create (by omega) (by omega) (by omega) hc)
  | batchExecuted coin n bn height txHash feePaid feePayer => exact batchExecuted_moves hok
  | contractCall n scope inv height => injection hok with hok; subst hok; exact .refl _
  | signerSet n sn height members txHash => injection hok with hok; subst hok; exact .observedSet _ _ _

theorem Moves.frame {h h' : Hub} (hm : Moves h h') :
    h' = { h with cs := h'.cs, bal := h'.bal, supply := h'.supply, status := h'.status, feeRec := h'.feeRec } ∧
    ∀ ch, h'.chain ch = { h.chain ch with
      pool := (h'.chain ch).pool, batches := (h'.chain ch).batches, lastSteId := (h'.chain ch).lastSteId,
      lastBatchNonce := (h'.chain ch).lastBatchNonce, outSeq := (h'.chain ch).outSeq,
      lastObservedSet := (h'.chain ch).lastObservedSet } := by
  have set : ∀ (a : Hub) (c : String) (s : ChainSt),
      s = { a.chain c with
            pool := s.pool, batches := s.batches, lastSteId := s.lastSteId,
            lastBatchNonce := s.lastBatchNonce, outSeq := s.outSeq, lastObservedSet := s.lastObservedSet } →
      ∀ ch, (a.setChain c s).chain ch = { a.chain ch with
        pool := ((a.setChain c s).chain ch).pool, batches := ((a.setChain c s).chain ch).batches,
        lastSteId := ((a.setChain c s).chain ch).lastSteId,
        lastBatchNonce := ((a.setChain c s).chain ch).lastBatchNonce,
        outSeq := ((a.setChain c s).chain ch).outSeq,
        lastObservedSet := ((a.setChain c s).chain ch).lastObservedSet } := by
    intro a c s hs ch
    by_cases e : c = ch
    · subst e; rw [chain_setChain]; exact hs
    · rw [chain_setChain_ne _ _ e]
  induction hm with
  | refl => exact ⟨rfl, fun _ => rfl⟩
  | trans _ _ ih1 ih2 =>
    refine ⟨by rw [ih2.1, ih1.1], fun ch => ?_⟩
    rw [ih2.2 ch, ih1.2 ch]
  | bank e => exact ⟨by rw [e], fun ch => by rw [e]; rfl⟩
  | status => exact ⟨rfl, fun _ => rfl⟩
  | create _ _ _ hc =>
    obtain ⟨_, hb, _, hburn, _, rfl⟩ := createSte_ok hc
    have e := burnFrom_frame hburn
    refine ⟨by rw [e]; rfl, fun ch => ?_⟩
    rw [e]
    exact set _ _ _ rfl ch
  | erasePool a c k => exact ⟨rfl, set a c _ rfl⟩
  | cancelBatch hc =>
    obtain ⟨_, b, _, rfl⟩ := cancelBatch_ok hc
    exact ⟨rfl, set _ _ _ rfl⟩
  | eraseBatch a c k => exact ⟨rfl, set a c _ rfl⟩
  | observedSet a c x => exact ⟨rfl, set a c _ rfl⟩

/-! ### Begin block: timed-out batches, signer sets, batch building -/

theorem cleanup_rel {R : Hub → Hub → Prop} (hrefl : ∀ a, R a a)
    (htrans : ∀ {a b c}, R a b → R b c → R a c) {chain : String}
    (hc : ∀ {a a' tok n}, a.cancelBatch chain tok n = .ok a' → R a a')
    {h h' : Hub} (hok : h.cleanupTimedOutBatches chain = .ok h') : R h h' := by
  unfold Hub.cleanupTimedOutBatches at hok
  refine foldlM_rel R hrefl htrans _ (fun a b a' _ e => ?_) hok
  by_cases ht : b.timeout < (h.chain chain).obsExtHeight
  · rw [if_pos ht] at e; exact hc e
  · rw [if_neg ht] at e; injection e with e; subst e; exact hrefl _

theorem cleanup_moves {h h' : Hub} {chain : String} (hok : h.cleanupTimedOutBatches chain = .ok h') :
    Moves h h' :=
  cleanup_rel MovesB.refl MovesB.trans (fun e => .cancelBatch e rfl) hok

theorem createSignerSet_ok {h h' : Hub} {chain : String} (hok : h.createSignerSet chain = .ok h') :
    ∃ cur, h.currentSigners chain = .ok cur ∧
      h' = h.setChain chain { h.chain chain with
        latestSetNonce := (h.chain chain).latestSetNonce + 1,
        outSeq := (h.chain chain).outSeq + 1,
        sets := insertByKey setKey
          { nonce := (h.chain chain).latestSetNonce + 1, height := h.height,
            seq := (h.chain chain).outSeq + 1, signers := sortSigners cur } (h.chain chain).sets } := by
  unfold Hub.createSignerSet at hok
  obtain ⟨cur, hc, hok⟩ := bind_ok hok
  injection hok with hok
  exact ⟨cur, hc, hok.symm⟩

/-- The test is abci.go's `powerDiff > 0.05` with `powerDiff = Σ|Δpower| / (2^32 − 1)` as a float:
    `20·Σ|Δpower| > 2^32 − 1` (C06 proves the two tests equal).  The other disjunct of `shouldCreate`,
    `lastUnbondingHeight == blockHeight`, never holds: the hook that would set that height is
    commented out (hooks.go). -/
theorem createSignerSetTxs_ok {h h' : Hub} {chain : String} (hok : h.createSignerSetTxs chain = .ok h') :
    (h.latestSignerSet chain = none ∧ h.createSignerSet chain = .ok h') ∨
    (∃ latest cur, h.latestSignerSet chain = some latest ∧ h.currentSigners chain = .ok cur ∧
      ((20 * powerDiffNum cur latest.signers > maxU32 ∧ h.createSignerSet chain = .ok h') ∨
       (20 * powerDiffNum cur latest.signers ≤ maxU32 ∧ h' = h))) := by
  unfold Hub.createSignerSetTxs at hok
  cases hl : h.latestSignerSet chain with
  | none => rw [hl] at hok; exact .inl ⟨rfl, hok⟩
  | some latest =>
    rw [hl] at hok
    obtain ⟨cur, hc, hok⟩ := bind_ok hok
    refine .inr ⟨latest, cur, rfl, hc, ?_⟩
    by_cases hgt : 20 * powerDiffNum cur latest.signers > maxU32
    · rw [if_pos hgt] at hok; exact .inl ⟨hgt, hok⟩
    · rw [if_neg hgt] at hok
      injection hok with hok
      exact .inr ⟨by omega, hok.symm⟩

theorem createSignerSetTxs_cases {h h' : Hub} {chain : String} (hok : h.createSignerSetTxs chain = .ok h') :
    h' = h ∨ h.createSignerSet chain = .ok h' := by
  rcases createSignerSetTxs_ok hok with ⟨_, e⟩ | ⟨_, _, _, _, ⟨_, e⟩ | ⟨_, e⟩⟩
  · exact .inr e
  · exact .inr e
  · exact .inl e

theorem pruneSignerSets_cases (h : Hub) (chain : String) :
    h.pruneSignerSets chain = h ∨
    ∃ p, h.pruneSignerSets chain =
      h.setChain chain { h.chain chain with sets := (h.chain chain).sets.filter p } := by
  unfold Hub.pruneSignerSets
  dsimp only
  cases hl : (h.chain chain).lastObservedSet with
  | none => exact .inl rfl
  | some x =>
    dsimp only
    by_cases hw : h.height < h.params.window
    · rw [if_pos hw]; exact .inl rfl
    · rw [if_neg hw]; exact .inr ⟨_, rfl⟩

/-! ### Writes beside the ledger -/

/-- `h'` is `h`, or `h` with the state of `chain` replaced by one with the same pool, batches,
    counters and observed height: all that the vote, confirmation and key messages and the two
    signer-set phases of `BeginBlocker` do. -/
def SideWrite (chain : String) (h h' : Hub) : Prop :=
  h' = h ∨ ∃ s : ChainSt, h' = h.setChain chain s ∧ s.pool = (h.chain chain).pool ∧
    s.batches = (h.chain chain).batches ∧ s.lastSteId = (h.chain chain).lastSteId ∧
    s.lastBatchNonce = (h.chain chain).lastBatchNonce ∧ s.obsExtHeight = (h.chain chain).obsExtHeight

theorem submitEvent_side {h h' : Hub} {chain signer : String} {ev : Event}
    (hok : h.submitEvent chain signer ev = .ok h') : SideWrite chain h h' := by
  obtain ⟨_, _, c, _, hc, rfl⟩ := submitEvent_ok hok
  obtain ⟨_, rfl⟩ := recordVote_ok hc
  exact .inr ⟨_, rfl, rfl, rfl, rfl, rfl, rfl⟩

theorem confirm_side {h h' : Hub} {chain signer ext sig : String} {k : ConfKind}
    (hok : h.confirm chain signer k ext sig = .ok h') : SideWrite chain h h' := by
  obtain ⟨_, _, _, _, _, _, _, _, rfl⟩ := confirm_ok hok
  exact .inr ⟨_, rfl, rfl, rfl, rfl, rfl, rfl⟩

theorem setDelegateKeys_side {h h' : Hub} {chain val orch eth sb sv : String} {sn acc : Nat}
    (hok : h.setDelegateKeys chain val orch eth sb sv sn acc = .ok h') : SideWrite chain h h' := by
  obtain ⟨_, _, _, _, _, _, rfl⟩ := setDelegateKeys_ok hok
  exact .inr ⟨_, rfl, rfl, rfl, rfl, rfl, rfl⟩

theorem createSignerSetTxs_side {h h' : Hub} {chain : String} (hok : h.createSignerSetTxs chain = .ok h') :
    SideWrite chain h h' := by
  rcases createSignerSetTxs_cases hok with rfl | hc
  · exact .inl rfl
  · obtain ⟨_, _, rfl⟩ := createSignerSet_ok hc
    exact .inr ⟨_, rfl, rfl, rfl, rfl, rfl, rfl⟩

theorem pruneSignerSets_side (h : Hub) (chain : String) : SideWrite chain h (h.pruneSignerSets chain) := by
  rcases pruneSignerSets_cases h chain with e | ⟨_, e⟩
  · exact .inl e
  · exact .inr ⟨_, e, rfl, rfl, rfl, rfl, rfl⟩

/-- `createBatchTxs` acts on even block heights only (`ctx.BlockHeight()%2 == 0`, abci.go) and is then a
    sequence of `BuildBatchTx` with batch size 100, one per external token id (`extToken`) in the pool. -/
theorem createBatches_rel {R : Hub → Hub → Prop} (hrefl : ∀ a, R a a)
    (htrans : ∀ {a b c}, R a b → R b c → R a c) {chain : String}
    (hb : ∀ a tok, R a (a.buildBatch chain tok 100).1) (h : Hub) : R h (h.createBatches chain) := by
  unfold Hub.createBatches
  by_cases he : (h.height % 2 == 0) = true
  · rw [if_pos he]
    exact foldl_rel R hrefl htrans _ (fun a id _ => hb a id) h
  · rw [if_neg he]; exact hrefl _

/-- One chain's share of `BeginBlocker`. -/
def Hub.beginStep (h : Hub) (chain : String) : M Hub := do
  if chain == "hub" then return h
  let h ← (if chain != "minter" then h.cleanupTimedOutBatches chain else pure h)
  let h ← h.createSignerSetTxs chain
  let h := h.createBatches chain
  return h.pruneSignerSets chain

theorem beginBlock_eq (h : Hub) : h.beginBlock = h.chains.foldlM Hub.beginStep h := rfl

theorem beginStep_ok {h h' : Hub} {chain : String} (hok : h.beginStep chain = .ok h') :
    (chain = "hub" ∧ h' = h) ∨
    (chain ≠ "hub" ∧ ∃ a b, ((chain ≠ "minter" ∧ h.cleanupTimedOutBatches chain = .ok a) ∨ (chain = "minter" ∧ a = h)) ∧
      a.createSignerSetTxs chain = .ok b ∧ h' = (b.createBatches chain).pruneSignerSets chain) := by
  unfold Hub.beginStep at hok
  by_cases hc : (chain == "hub") = true
  · rw [if_pos hc] at hok; injection hok with hok; exact .inl ⟨by simpa using hc, hok.symm⟩
  rw [if_neg hc] at hok
  obtain ⟨a, ha, hok⟩ := bind_ok hok
  obtain ⟨b, hb, hok⟩ := bind_ok hok
  injection hok with hok
  refine .inr ⟨by simpa using hc, a, b, ?_, hb, hok.symm⟩
  by_cases hm : (chain != "minter") = true
  · rw [if_pos hm] at ha; exact .inl ⟨by simpa using hm, ha⟩
  · rw [if_neg hm] at ha; injection ha with ha; exact .inr ⟨by simpa using hm, ha.symm⟩

theorem beginStep_rel {R : Hub → Hub → Prop} (hrefl : ∀ a, R a a)
    (htrans : ∀ {a b c}, R a b → R b c → R a c) {chain : String}
    (hc : ∀ {a b}, a.cleanupTimedOutBatches chain = .ok b → R a b)
    (hb : ∀ a tok, R a (a.buildBatch chain tok 100).1)
    (hs : ∀ {a b}, a.createSignerSetTxs chain = .ok b → R a b)
    (hp : ∀ a, R a (a.pruneSignerSets chain))
    {h h' : Hub} (hok : h.beginStep chain = .ok h') : R h h' := by
  rcases beginStep_ok hok with ⟨_, rfl⟩ | ⟨_, x, y, hx, hy, rfl⟩
  · exact hrefl _
  · have h1 : R h x := by
      rcases hx with ⟨_, hx⟩ | ⟨_, rfl⟩
      · exact hc hx
      · exact hrefl _
    exact htrans (htrans (htrans h1 (hs hy)) (createBatches_rel hrefl htrans hb y)) (hp _)

theorem beginBlock_rel {R : Hub → Hub → Prop} (hrefl : ∀ a, R a a)
    (htrans : ∀ {a b c}, R a b → R b c → R a c)
    (hc : ∀ {a b chain}, a.cleanupTimedOutBatches chain = .ok b → R a b)
    (hb : ∀ a chain tok, R a (a.buildBatch chain tok 100).1)
    (hs : ∀ {a b chain}, a.createSignerSetTxs chain = .ok b → R a b)
    (hp : ∀ a chain, R a (a.pruneSignerSets chain))
    {h h' : Hub} (hok : h.beginBlock = .ok h') : R h h' := by
  rw [beginBlock_eq] at hok
  exact foldlM_rel R hrefl htrans _ (fun a chain a' _ e =>
    beginStep_rel hrefl htrans hc (fun a tok => hb a chain tok) hs (fun a => hp a chain) e) hok

/-! ### End block: the tally and the expiry sweep -/

/-- The expiry sweep refunds expired entries of the pool it starts from; a refund that fails with an
    error (not a panic) keeps what it wrote. -/
theorem refundExpired_rel {R : Hub → Hub → Prop} (hrefl : ∀ a, R a a)
    (htrans : ∀ {a b c}, R a b → R b c → R a c) {chain : String} {h h' : Hub}
    (hc : ∀ a s, s ∈ (h.chain chain).pool → s.createdAt * 1000 + a.params.outgoingTimeoutMs < a.time * 1000 →
      R a (a.cancelSte chain s.id s.sender).1)
    (hok : h.refundExpired chain = .ok h') : R h h' := by
  unfold Hub.refundExpired at hok
  refine foldlM_rel R hrefl htrans _ (fun a s a' hs e => ?_) hok
  by_cases ht : s.createdAt * 1000 + a.params.outgoingTimeoutMs < a.time * 1000
  · rw [if_pos ht] at e
    have hmv := hc a s (List.mem_reverse.mp hs) ht
    generalize a.cancelSte chain s.id s.sender = r at e hmv
    obtain ⟨x, _ | er⟩ := r
    · injection e with e; subst e; exact hmv
    · cases er with
      | fail _ => injection e with e; subst e; exact hmv
      | panic _ => cases e
  · rw [if_neg ht] at e; injection e with e; subst e; exact hrefl _

theorem refundExpired_moves {b : Bool} {h h' : Hub} {chain : String} (hok : h.refundExpired chain = .ok h') :
    MovesB b h h' :=
  refundExpired_rel MovesB.refl MovesB.trans (fun a s _ _ => cancelSte_moves a chain s.id s.sender) hok

theorem tryRecord_rel {R : Hub → Hub → Prop} (hrefl : ∀ a, R a a)
    (htrans : ∀ {a b c}, R a b → R b c → R a c) {mf : Bool} {chain : String}
    (hh : ∀ {a b ev}, a.handle mf chain ev = .ok b → R a b)
    (ho : ∀ a r, R a (a.setChain chain ((a.chain chain).markObserved r a.height)))
    {h h' : Hub} {r : VoteRec} (hok : h.tryRecord mf chain r = .ok h') : R h h' := by
  rcases tryRecord_cases h mf chain r with ⟨_, _, e⟩ | ⟨_, e⟩ | ⟨_, ⟨a, ha, e⟩ | ⟨_, e⟩⟩
  · rw [e] at hok; cases hok
  · rw [e] at hok; injection hok with hok; subst hok; exact hrefl _
  · rw [e] at hok; injection hok with hok; subst hok
    exact htrans (ho h r) (hh ha)
  · rw [e] at hok; injection hok with hok; subst hok; exact ho h r

theorem tally_rel {R : Hub → Hub → Prop} (hrefl : ∀ a, R a a)
    (htrans : ∀ {a b c}, R a b → R b c → R a c) {mf : Bool} {chain : String}
    (hh : ∀ {a b ev}, a.handle mf chain ev = .ok b → R a b)
    (ho : ∀ a r, R a (a.setChain chain ((a.chain chain).markObserved r a.height)))
    {h h' : Hub} (hok : h.tally mf chain = .ok h') : R h h' := by
  unfold Hub.tally at hok
  exact foldlM_rel R hrefl htrans _ (fun _ _ _ _ e => tryRecord_rel hrefl htrans hh ho e) hok

theorem endBlock_rel {R : Hub → Hub → Prop} (hrefl : ∀ a, R a a)
    (htrans : ∀ {a b c}, R a b → R b c → R a c) {mf : Bool}
    (hh : ∀ {a b chain ev}, a.handle mf chain ev = .ok b → R a b)
    (ho : ∀ a chain r, R a (a.setChain chain ((a.chain chain).markObserved r a.height)))
    (hc : ∀ a chain id sender, R a (a.cancelSte chain id sender).1)
    {h h' : Hub} (hok : h.endBlock mf = .ok h') : R h h' := by
  unfold Hub.endBlock at hok
  refine foldlM_rel R hrefl htrans _ (fun a chain a' _ e => ?_) hok
  obtain ⟨x, hx, e⟩ := bind_ok e
  exact htrans (tally_rel hrefl htrans hh (fun a r => ho a chain r) hx)
    (refundExpired_rel hrefl htrans (fun a s _ _ => hc a chain s.id s.sender) e)

theorem endBlock_rel_moves {R : Hub → Hub → Prop} (hrefl : ∀ a, R a a)
    (htrans : ∀ {a b c}, R a b → R b c → R a c) (hm : ∀ {a b}, Moves a b → R a b)
    (ho : ∀ a chain r, R a (a.setChain chain ((a.chain chain).markObserved r a.height)))
    {h h' : Hub} {mf : Bool} (hok : h.endBlock mf = .ok h') : R h h' :=
  endBlock_rel hrefl htrans (fun e => hm (handle_moves e)) ho (fun a c i s => hm (cancelSte_moves a c i s)) hok

/-! ### The operations of a history -/

theorem initialHub_chain (c : String) : initialHub.chain c = {} := rfl

theorem outM_fst (r : M Hub) (old : Hub) : (outM r old).1 = old ∨ r = .ok (outM r old).1 := by
  unfold outM
  split
  · exact .inr rfl
  · exact .inl rfl
  · exact .inl rfl

theorem outM_ok {r : M Hub} {old h' : Hub} (e : r = .ok h') : outM r old = (h', "ok") := by
  subst e; rfl

theorem outM_err {r : M Hub} {old : Hub} {e : Err} (he : r = .error e) :
    (outM r old).1 = old ∧ (outM r old).2 ≠ "ok" := by
  subst he; cases e <;> exact ⟨rfl, by simp [outM]⟩

/-- `OpOk h op h'`: operation `op` of the line protocol may change the state `h` into `h'`; for a
    message or a block function this means the keeper function succeeded with `h'`. -/
inductive OpOk (h : Hub) : Op → Hub → Prop
  | chains (cs : List String) : OpOk h (.chains cs) { h with chains := cs }
  | token (t : TokenInfo) : OpOk h (.token t) { h with tokens := h.tokens ++ [t] }
  /-- Any new parameter record: which field `name` selects is of no consequence to the lemmas
      built on `OpOk`, and `apply_cases` needs no case analysis of the name this way. -/
  | param (name : String) (n : Nat) (p : Params) : OpOk h (.param name n) { h with params := p }
  | gravityId (v : String) : OpOk h (.gravityId v) { h with params := { h.params with gravityId := v } }
  | price (name : String) (x : Int) : OpOk h (.price name x) { h with prices := alSet h.prices name x }
  | holder (addr : String) (x : Int) :
      OpOk h (.holder addr x) { h with holders := alSet h.holders addr.toLower x }
  | staking (vs : List Validator) : OpOk h (.staking vs) { h with staking := vs }
  | block (ht t : Nat) : OpOk h (.block ht t) { h with height := ht, time := t }
  | fund {acc denom : String} {a : Int} {h' : Hub} : h.mintTo acc denom a = .ok h' → OpOk h (.fund acc denom a) h'
  | beginBlock {h' : Hub} : h.beginBlock = .ok h' → OpOk h .beginBlock h'
  | endBlock {h' : Hub} : h.endBlock mintsFee = .ok h' → OpOk h .endBlock h'
  | send {sender chain rcp denom tx : String} {a f : Int} {h' : Hub} {id : Nat} :
      h.sendToExternal sender chain rcp denom a f (txHashOfTag tx) = .ok (h', id) →
      OpOk h (.send sender chain rcp denom a f tx) h'
  | cancel {sender chain : String} {i : Nat} {h' : Hub} :
      h.cancelMsg sender chain i = .ok h' → OpOk h (.cancel sender chain i) h'
  | reqBatch {chain denom : String} {h' : Hub} {ob : Option Batch} :
      h.requestBatch chain denom = .ok (h', ob) → OpOk h (.reqBatch chain denom) h'
  | vote {chain signer : String} {e : Event} {h' : Hub} :
      e.validBasic = true → h.submitEvent chain signer e = .ok h' → OpOk h (.vote chain signer e) h'
  | confirm {chain signer ext sig : String} {k : ConfKind} {h' : Hub} :
      h.confirm chain signer k ext sig = .ok h' → OpOk h (.confirm chain signer k ext sig) h'
  | delegate {chain val orch eth sb sv : String} {n s : Nat} {h' : Hub} :
      h.setDelegateKeys chain val orch eth sb sv n s = .ok h' →
      OpOk h (.delegate chain val orch eth sb sv n s) h'

theorem apply_cases (h : Hub) (op : Op) :
    (apply h op).1 = h ∨ op = .reset ∨ OpOk h op (apply h op).1 := by
  cases op
  case reset => exact .inr (.inl rfl)
  case chains cs => exact .inr (.inr (.chains cs))
  case token t => exact .inr (.inr (.token t))
  case param name n =>
    dsimp only [apply]
    split
    · exact .inr (.inr (.param name n _))
    · exact .inl rfl
  case gravityId v => exact .inr (.inr (.gravityId v))
  case price name x => exact .inr (.inr (.price name x))
  case holder a x => exact .inr (.inr (.holder a x))
  case staking vs => exact .inr (.inr (.staking vs))
  case block ht t => exact .inr (.inr (.block ht t))
  case fund acc d a =>
    rcases outM_fst (h.mintTo acc d a) h with e | e
    · exact .inl e
    · exact .inr (.inr (.fund e))
  case beginBlock =>
    rcases outM_fst h.beginBlock h with e | e
    · exact .inl e
    · exact .inr (.inr (.beginBlock e))
  case endBlock =>
    rcases outM_fst (h.endBlock mintsFee) h with e | e
    · exact .inl e
    · exact .inr (.inr (.endBlock e))
  case send sender chain rcp denom a f tx =>
    dsimp only [apply]
    cases hs : h.sendToExternal sender chain rcp denom a f (txHashOfTag tx) with
    | ok r => obtain ⟨h', id⟩ := r; exact .inr (.inr (.send hs))
    | error e => cases e <;> exact .inl rfl
  case cancel sender chain i =>
    rcases outM_fst (h.cancelMsg sender chain i) h with e | e
    · exact .inl e
    · exact .inr (.inr (.cancel e))
  case reqBatch chain denom =>
    dsimp only [apply]
    cases hs : h.requestBatch chain denom with
    | ok r => obtain ⟨h', _ | b⟩ := r <;> exact .inr (.inr (.reqBatch hs))
    | error e => cases e <;> exact .inl rfl
  case vote chain signer e =>
    dsimp only [apply]
    by_cases hv : e.validBasic = true
    · rw [if_pos hv]
      rcases outM_fst (h.submitEvent chain signer e) h with e' | e'
      · exact .inl e'
      · exact .inr (.inr (.vote hv e'))
    · rw [if_neg hv]; exact .inl rfl
  case confirm chain signer k ext sig =>
    rcases outM_fst (h.confirm chain signer k ext sig) h with e | e
    · exact .inl e
    · exact .inr (.inr (.confirm e))
  case delegate chain val orch eth sb sv n s =>
    rcases outM_fst (h.setDelegateKeys chain val orch eth sb sv n s) h with e | e
    · exact .inl e
    · exact .inr (.inr (.delegate e))
  case qUnsignedSets chain signer => dsimp only [apply]; split <;> exact .inl rfl
  case qUnsignedBatches chain signer => dsimp only [apply]; split <;> exact .inl rfl
  case qLastNonce chain signer => dsimp only [apply]; split <;> exact .inl rfl
  all_goals exact .inl rfl

end Mhub2
