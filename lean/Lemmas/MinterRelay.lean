import Mhub2.MinterRelay
import Lemmas.Base
namespace Mhub2

theorem isort_sorted_desc_seq (bs : List HubTx) :
    (isort (fun a b => decide (a.seq > b.seq)) bs).Pairwise (fun a b => a.seq ≥ b.seq) := by
  have h := isort_sorted (fun (a b : HubTx) => decide (a.seq > b.seq))
    (by intro a b h; simp at h ⊢; omega)
    (by intro a b c h1 h2; simp at h1 h2 ⊢; omega) bs
  refine List.Pairwise.imp ?_ h
  intro a b hab
  simp at hab
  omega

theorem getLast_le_of_pairwise_ge {l : List HubTx} (hs : l.Pairwise (fun a b => a.seq ≥ b.seq))
    {y x : HubTx} (hy : l.getLast? = some y) (hx : x ∈ l) : y.seq ≤ x.seq := by
  induction l with
  | nil => simp at hx
  | cons a as ih =>
    rw [List.pairwise_cons] at hs
    cases as with
    | nil =>
      simp at hy hx; subst hy; subst hx; exact Nat.le_refl _
    | cons b bs =>
      have hy' : (b :: bs).getLast? = some y := by simpa [List.getLast?_cons_cons] using hy
      rcases List.mem_cons.mp hx with rfl | hx'
      · have hm : y ∈ b :: bs := List.mem_of_getLast? hy'
        exact hs.1 y hm
      · exact ih hs.2 hy' hx'

/-- The signed batches of the hub's answer, highest sequence first: `relayBatches` keeps the last. -/
def signedDesc (bs : List HubTx) : List HubTx :=
  (isort (fun a b => decide (a.seq > b.seq)) bs).filter fun b => decide (b.nsigs > 0)

theorem mem_signedDesc {bs : List HubTx} {x : HubTx} : x ∈ signedDesc bs ↔ x ∈ bs ∧ x.nsigs > 0 := by
  unfold signedDesc
  rw [List.mem_filter, (isort_perm _ bs).mem_iff, decide_eq_true_eq]

theorem signedDesc_sorted (bs : List HubTx) : (signedDesc bs).Pairwise (fun a b => a.seq ≥ b.seq) :=
  List.Pairwise.filter _ (isort_sorted_desc_seq bs)

/-- Both picks end alike: the candidate found, unless a guard on it fails. -/
theorem ite_none_eq_some {α : Type} {c : Prop} [Decidable c] {x b : α} :
    (if c then none else some x) = some b ↔ x = b ∧ ¬ c := by
  by_cases hc : c
  · simp [hc]
  · simp [hc]

theorem pickBatch_eq_some {last : Nat} {bs : List HubTx} {b : HubTx} :
    pickBatch last bs = some b ↔ (signedDesc bs).getLast? = some b ∧ last ≤ b.nonce := by
  unfold pickBatch signedDesc
  split
  next h => simp [h]
  next y h =>
    rw [h, ite_none_eq_some, Option.some.injEq, Nat.not_lt]
    exact and_congr_right fun e => e ▸ Iff.rfl

theorem pickValset_eq_some {last : Nat} {vs : List HubTx} {v : HubTx} :
    pickValset last vs = some v ↔ pickValsetLoop last none vs = some v ∧ last < v.nonce := by
  unfold pickValset
  split
  next h => simp [h]
  next y h =>
    rw [h, ite_none_eq_some, Option.some.injEq, Nat.not_le]
    exact and_congr_right fun e => e ▸ Iff.rfl

/-- The loop of `relayValsets`.  `hcur` is the loop invariant on the candidate held so far; its default
    proves it for the initial `cur = none`. -/
theorem pickValsetLoop_spec (last : Nat) (vs : List HubTx) (cur : Option HubTx) (w : HubTx)
    (h : pickValsetLoop last cur vs = some w) (hw : last < w.nonce)
    (hcur : ∀ c, cur = some c → c.nonce ≤ last := by intro c hc; cases hc) :
    ∃ pre post, vs = pre ++ w :: post ∧ w.nsigs > 0 ∧ ∀ x ∈ pre, x.nsigs > 0 → x.nonce ≤ last := by
  induction vs generalizing cur with
  | nil =>
    simp only [pickValsetLoop] at h
    have := hcur w h
    omega
  | cons v rest ih =>
    simp only [pickValsetLoop] at h
    by_cases hs : v.nsigs > 0
    · simp only [hs, if_true] at h
      by_cases hn : v.nonce > last
      · simp only [hn, if_true, Option.some.injEq] at h
        subst h
        exact ⟨[], rest, rfl, hs, by simp⟩
      · simp only [hn, if_false] at h
        obtain ⟨pre, post, hsplit, hws, hpre⟩ := ih (some v) h (by intro c hc; cases hc; omega)
        refine ⟨v :: pre, post, by rw [hsplit]; rfl, hws, ?_⟩
        intro x hx hxs
        rcases List.mem_cons.mp hx with rfl | hx'
        · omega
        · exact hpre x hx' hxs
    · simp only [hs, if_false] at h
      obtain ⟨pre, post, hsplit, hws, hpre⟩ := ih cur h hcur
      refine ⟨v :: pre, post, by rw [hsplit]; rfl, hws, ?_⟩
      intro x hx hxs
      rcases List.mem_cons.mp hx with rfl | hx'
      · exact absurd hxs hs
      · exact hpre x hx' hxs

theorem pickValsetLoop_next {last : Nat} {post : List HubTx} {v : HubTx} (hs : v.nsigs > 0)
    (hn : last < v.nonce) : ∀ (pre : List HubTx) (cur : Option HubTx),
    (∀ x ∈ pre, x.nsigs > 0 → x.nonce ≤ last) → pickValsetLoop last cur (pre ++ v :: post) = some v
  | [], cur, _ => by simp only [List.nil_append, pickValsetLoop, hs, hn, if_true]
  | x :: xs, cur, hp => by
    simp only [List.cons_append, pickValsetLoop]
    by_cases hx : x.nsigs > 0
    · have : ¬ x.nonce > last := by have := hp x (by simp) hx; omega
      simp only [hx, this, if_true, if_false]
      exact pickValsetLoop_next hs hn xs _ (fun y hy => hp y (by simp [hy]))
    · simp only [hx, if_false]
      exact pickValsetLoop_next hs hn xs _ (fun y hy => hp y (by simp [hy]))

theorem filter_eq_singleton_of_nodup {members : List String} (hnd : members.Nodup) {c : String} (hc : c ∈ members) :
    (members.filter fun m => m == c) = [c] := by
  induction members with
  | nil => simp at hc
  | cons m ms ih =>
    rw [List.nodup_cons] at hnd
    rw [List.filter_cons]
    by_cases hm : m = c
    · subst hm
      have : (ms.filter fun x => x == m) = [] := by
        rw [List.filter_eq_nil_iff]; intro a ha; simp; intro e; exact hnd.1 (e ▸ ha)
      simp [this]
    · have hc' : c ∈ ms := by
        rcases List.mem_cons.mp hc with h | h
        · exact absurd h.symm hm
        · exact h
      simp [hm, ih hnd.2 hc']

end Mhub2
