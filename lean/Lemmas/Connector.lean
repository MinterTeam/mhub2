/-
  The Minter connector's resynchronisation scan `resync` (C20), characterised completely (`resync_spec`):
  either it never takes the early return and commits exactly the block-end cursors `blockEnds` of the
  blocks above the start cursor; or it stops inside a block `b` at a counted transaction and commits those
  of the blocks before `b`, then one cursor with `lastChecked = b.height - 1` and the counters as they
  stand after the transactions of `b` before that one (`EarlyReturn`).
-/
import Mhub2.Connector
import Lemmas.Base
namespace Mhub2

def ChainWF (chain : List MBlock) : Prop := chain.Pairwise (fun a b => a.height < b.height)

/-- Number of bridge events among some transactions. -/
def evCnt (txs : List MTx) : Nat := (txs.filter countsInResync).length

/-- Does the transaction consume a batch nonce (multisend from the multisig)? -/
def isBatchTx : MTx → Bool
  | .multisend fromM => fromM
  | _ => false

def batchCnt (txs : List MTx) : Nat := (txs.filter isBatchTx).length

def evSum (bs : List MBlock) : Nat := sumNats (bs.map fun b => evCnt b.txs)
def batchSum (bs : List MBlock) : Nat := sumNats (bs.map fun b => batchCnt b.txs)

def batchesBetween (chain : List MBlock) (lo hi : Nat) : Nat :=
  batchSum (chain.filter fun b => lo < b.height && b.height ≤ hi)

def txsBetween (chain : List MBlock) (lo hi : Nat) : List MTx :=
  (chain.filter fun b => lo < b.height && b.height ≤ hi).flatMap (·.txs)

def eventsAbove (chain : List MBlock) (lo : Nat) : Nat :=
  evSum (chain.filter fun b => b.height > lo)

/-- The valset nonce after some transactions: the numeric payload of the last
    edit-multisig transaction sent from the multisig, if any. -/
def valsetAfter (v : Nat) (txs : List MTx) : Nat :=
  txs.foldl (fun v tx => match tx with
    | .editMultisig true (some n) => n
    | _ => v) v

/-- What one transaction does to the cursor when the early return is not taken. -/
def stepCur (c : Cursor) (tx : MTx) : Cursor :=
  if !countsInResync tx then c
  else match tx with
    | .send .. => { c with nextEvent := c.nextEvent + 1 }
    | .multisend _ => { c with nextEvent := c.nextEvent + 1, nextBatch := c.nextBatch + 1 }
    | .editMultisig _ (some n) => { c with nextEvent := c.nextEvent + 1, lastValset := n }
    | _ => c

def endCur (c : Cursor) (b : MBlock) : Cursor :=
  { b.txs.foldl stepCur c with lastChecked := b.height }

def curAfter (c : Cursor) (bs : List MBlock) : Cursor := bs.foldl endCur c

def blockEnds (c : Cursor) : List MBlock → List Cursor
  | [] => []
  | b :: bs => endCur c b :: blockEnds (endCur c b) bs

def earlyCur (c : Cursor) (height : Nat) (txpre : List MTx) : Cursor :=
  { txpre.foldl stepCur c with lastChecked := height - 1 }

/-- The commits made at the end of a block: all commits, except the last one if the scan took
    the early return. -/
def blockCommits (r : ScanSt) : List Cursor :=
  if r.stopped then r.commits.dropLast else r.commits


@[simp] theorem evCnt_nil : evCnt [] = 0 := rfl
theorem evCnt_cons (tx : MTx) (txs : List MTx) :
    evCnt (tx :: txs) = (if countsInResync tx then 1 else 0) + evCnt txs := by
  unfold evCnt
  by_cases h : countsInResync tx = true <;> simp [h] <;> omega
theorem evCnt_append (a b : List MTx) : evCnt (a ++ b) = evCnt a + evCnt b := by
  simp [evCnt, List.filter_append]

theorem evCnt_eq_zero_iff (txs : List MTx) :
    evCnt txs = 0 ↔ ∀ t ∈ txs, countsInResync t = false := by
  simp [evCnt, List.filter_eq_nil_iff]

@[simp] theorem batchCnt_nil : batchCnt [] = 0 := rfl
theorem batchCnt_cons (tx : MTx) (txs : List MTx) :
    batchCnt (tx :: txs) = (if isBatchTx tx then 1 else 0) + batchCnt txs := by
  unfold batchCnt
  by_cases h : isBatchTx tx = true <;> simp [h] <;> omega

@[simp] theorem evSum_nil : evSum [] = 0 := rfl
theorem evSum_cons (b : MBlock) (bs : List MBlock) : evSum (b :: bs) = evCnt b.txs + evSum bs := by
  simp [evSum, sumNats_cons]
theorem evSum_append (a b : List MBlock) : evSum (a ++ b) = evSum a + evSum b := by
  induction a with
  | nil => simp
  | cons x xs ih => rw [List.cons_append, evSum_cons, evSum_cons, ih]; omega

@[simp] theorem batchSum_nil : batchSum [] = 0 := rfl
theorem batchSum_cons (b : MBlock) (bs : List MBlock) : batchSum (b :: bs) = batchCnt b.txs + batchSum bs := by
  simp [batchSum, sumNats_cons]
theorem batchSum_append (a b : List MBlock) : batchSum (a ++ b) = batchSum a + batchSum b := by
  induction a with
  | nil => simp
  | cons x xs ih => rw [List.cons_append, batchSum_cons, batchSum_cons, ih]; omega

theorem eventsBetween_eq (chain : List MBlock) (lo hi : Nat) :
    eventsBetween chain lo hi = evSum (chain.filter fun b => lo < b.height && b.height ≤ hi) := rfl

theorem valsetAfter_append (v : Nat) (a b : List MTx) :
    valsetAfter v (a ++ b) = valsetAfter (valsetAfter v a) b := by
  simp [valsetAfter, List.foldl_append]


theorem stepCur_eq (c : Cursor) (tx : MTx) :
    stepCur c tx =
      { lastChecked := c.lastChecked
        nextEvent := c.nextEvent + (if countsInResync tx then 1 else 0)
        nextBatch := c.nextBatch + (if isBatchTx tx then 1 else 0)
        lastValset := valsetAfter c.lastValset [tx] } := by
  cases tx with
  | send a b v => cases a <;> cases b <;> cases v <;> rfl
  | multisend a => cases a <;> rfl
  | editMultisig a p => cases a <;> cases p <;> rfl
  | other => rfl

theorem stepCur_nextEvent (c : Cursor) (tx : MTx) :
    (stepCur c tx).nextEvent = c.nextEvent + (if countsInResync tx then 1 else 0) := by
  rw [stepCur_eq]

theorem foldl_stepCur_eq (txs : List MTx) (c : Cursor) :
    txs.foldl stepCur c =
      { lastChecked := c.lastChecked
        nextEvent := c.nextEvent + evCnt txs
        nextBatch := c.nextBatch + batchCnt txs
        lastValset := valsetAfter c.lastValset txs } := by
  induction txs generalizing c with
  | nil => rfl
  | cons t ts ih =>
    rw [List.foldl_cons, ih, stepCur_eq, evCnt_cons, batchCnt_cons, ← Nat.add_assoc, ← Nat.add_assoc]
    rfl

theorem foldl_stepCur_lastChecked (txs : List MTx) (c : Cursor) :
    (txs.foldl stepCur c).lastChecked = c.lastChecked := by
  rw [foldl_stepCur_eq]

theorem foldl_stepCur_nextEvent (txs : List MTx) (c : Cursor) :
    (txs.foldl stepCur c).nextEvent = c.nextEvent + evCnt txs := by
  rw [foldl_stepCur_eq]


theorem endCur_lastChecked (c : Cursor) (b : MBlock) : (endCur c b).lastChecked = b.height := rfl
theorem endCur_nextEvent (c : Cursor) (b : MBlock) :
    (endCur c b).nextEvent = c.nextEvent + evCnt b.txs := foldl_stepCur_nextEvent b.txs c
theorem endCur_nextBatch (c : Cursor) (b : MBlock) :
    (endCur c b).nextBatch = c.nextBatch + batchCnt b.txs := by rw [endCur, foldl_stepCur_eq]
theorem endCur_lastValset (c : Cursor) (b : MBlock) :
    (endCur c b).lastValset = valsetAfter c.lastValset b.txs := by rw [endCur, foldl_stepCur_eq]

theorem earlyCur_nextEvent (c : Cursor) (h : Nat) (txpre : List MTx) :
    (earlyCur c h txpre).nextEvent = c.nextEvent + evCnt txpre := foldl_stepCur_nextEvent txpre c
theorem earlyCur_nextBatch (c : Cursor) (h : Nat) (txpre : List MTx) :
    (earlyCur c h txpre).nextBatch = c.nextBatch + batchCnt txpre := by rw [earlyCur, foldl_stepCur_eq]

@[simp] theorem curAfter_nil (c : Cursor) : curAfter c [] = c := rfl
theorem curAfter_cons (c : Cursor) (b : MBlock) (bs : List MBlock) :
    curAfter c (b :: bs) = curAfter (endCur c b) bs := rfl
theorem curAfter_concat (c : Cursor) (bs : List MBlock) (b : MBlock) :
    curAfter c (bs ++ [b]) = endCur (curAfter c bs) b := by
  simp [curAfter, List.foldl_append]

theorem curAfter_nextEvent (bs : List MBlock) (c : Cursor) :
    (curAfter c bs).nextEvent = c.nextEvent + evSum bs := by
  induction bs generalizing c with
  | nil => simp
  | cons b bs ih => rw [curAfter_cons, ih, endCur_nextEvent, evSum_cons]; omega

theorem curAfter_nextBatch (bs : List MBlock) (c : Cursor) :
    (curAfter c bs).nextBatch = c.nextBatch + batchSum bs := by
  induction bs generalizing c with
  | nil => simp
  | cons b bs ih => rw [curAfter_cons, ih, endCur_nextBatch, batchSum_cons]; omega

theorem curAfter_lastValset (bs : List MBlock) (c : Cursor) :
    (curAfter c bs).lastValset = valsetAfter c.lastValset (bs.flatMap (·.txs)) := by
  induction bs generalizing c with
  | nil => rfl
  | cons b bs ih =>
    rw [curAfter_cons, ih, endCur_lastValset, List.flatMap_cons, valsetAfter_append]

theorem curAfter_lastChecked_concat (c : Cursor) (bs : List MBlock) (b : MBlock) :
    (curAfter c (bs ++ [b])).lastChecked = b.height := by
  rw [curAfter_concat]; rfl

theorem mem_blockEnds {bs : List MBlock} {c0 c : Cursor} (h : c ∈ blockEnds c0 bs) :
    ∃ pre b post, bs = pre ++ b :: post ∧ c = curAfter c0 (pre ++ [b]) := by
  induction bs generalizing c0 with
  | nil => simp [blockEnds] at h
  | cons x xs ih =>
    simp only [blockEnds, List.mem_cons] at h
    rcases h with h | h
    · exact ⟨[], x, xs, rfl, by simp [h, curAfter]⟩
    · obtain ⟨pre, b, post, hxs, hc⟩ := ih h
      exact ⟨x :: pre, b, post, by simp [hxs], by rw [hc]; rfl⟩

theorem blockEnds_append (c0 : Cursor) (a b : List MBlock) :
    blockEnds c0 (a ++ b) = blockEnds c0 a ++ blockEnds (curAfter c0 a) b := by
  induction a generalizing c0 with
  | nil => rfl
  | cons x xs ih => simp [blockEnds, ih, curAfter_cons]

theorem blockEnds_length (c0 : Cursor) (bs : List MBlock) : (blockEnds c0 bs).length = bs.length := by
  induction bs generalizing c0 with
  | nil => rfl
  | cons x xs ih => simp [blockEnds, ih]

theorem blockEnds_nextEvent_ge {bs : List MBlock} {c0 c : Cursor} (h : c ∈ blockEnds c0 bs) :
    c0.nextEvent ≤ c.nextEvent := by
  obtain ⟨pre, b, post, _, hc⟩ := mem_blockEnds h
  rw [hc, curAfter_nextEvent]; omega

theorem blockEnds_pairwise_nextEvent (bs : List MBlock) (c0 : Cursor) :
    (blockEnds c0 bs).Pairwise (fun a b => a.nextEvent ≤ b.nextEvent) := by
  induction bs generalizing c0 with
  | nil => exact List.Pairwise.nil
  | cons x xs ih =>
    simp only [blockEnds, List.pairwise_cons]
    exact ⟨fun c hc => blockEnds_nextEvent_ge hc, ih _⟩

theorem blockEnds_map_lastChecked (bs : List MBlock) (c0 : Cursor) :
    (blockEnds c0 bs).map (·.lastChecked) = bs.map (·.height) := by
  induction bs generalizing c0 with
  | nil => rfl
  | cons x xs ih => simp [blockEnds, ih, endCur_lastChecked]


theorem resyncTx_stopped (ack h : Nat) (s : ScanSt) (tx : MTx) (hs : s.stopped = true) :
    resyncTx ack h s tx = s := by
  simp [resyncTx, hs]

theorem foldl_resyncTx_stopped (ack h : Nat) (txs : List MTx) (s : ScanSt) (hs : s.stopped = true) :
    txs.foldl (resyncTx ack h) s = s := by
  induction txs with
  | nil => rfl
  | cons t ts ih => rw [List.foldl_cons, resyncTx_stopped ack h s t hs, ih]

theorem resyncTx_eq (ack h : Nat) (s : ScanSt) (tx : MTx) (hs : s.stopped = false) :
    resyncTx ack h s tx =
      if countsInResync tx && (decide (0 < ack) && decide (ack < s.cur.nextEvent)) then
        { cur := { s.cur with lastChecked := h - 1 },
          commits := s.commits ++ [{ s.cur with lastChecked := h - 1 }], stopped := true }
      else { s with cur := stepCur s.cur tx } := by
  unfold resyncTx
  rw [if_neg (ne_true_of_eq_false hs)]
  cases tx with
  | send a b v => cases a <;> cases b <;> cases v <;> rfl
  | multisend a => cases a <;> rfl
  | editMultisig a p => cases a <;> cases p <;> rfl
  | other => rfl

/-- If the scan passes `t` without returning, the bound "next nonce ≤ acknowledged nonce + 1 once
    an event was counted" extends from the transactions after `t` to `t :: pre`. -/
theorem tight_cons {ack : Nat} {c : Cursor} {t : MTx} {pre : List MTx} (ha : 0 < ack)
    (hno : ¬ (countsInResync t = true ∧ 0 < ack ∧ ack < c.nextEvent))
    (ih : 0 < evCnt pre → (pre.foldl stepCur (stepCur c t)).nextEvent ≤ ack + 1) :
    0 < evCnt (t :: pre) → ((t :: pre).foldl stepCur c).nextEvent ≤ ack + 1 := by
  rw [List.foldl_cons, foldl_stepCur_nextEvent, stepCur_nextEvent, evCnt_cons]
  rw [foldl_stepCur_nextEvent, stepCur_nextEvent] at ih
  cases hc : countsInResync t <;> rw [hc] at ih
  · simpa using ih
  · have : ¬ ack < c.nextEvent := fun h => hno ⟨hc, ha, h⟩
    simp only [if_true] at ih ⊢
    omega

theorem foldl_resyncTx_spec (ack h : Nat) (txs : List MTx) (s : ScanSt) (hs : s.stopped = false) :
    ((txs.foldl (resyncTx ack h) s).stopped = false ∧
      (txs.foldl (resyncTx ack h) s).commits = s.commits ∧
      (txs.foldl (resyncTx ack h) s).cur = txs.foldl stepCur s.cur ∧
      (0 < ack → 0 < evCnt txs → (txs.foldl stepCur s.cur).nextEvent ≤ ack + 1)) ∨
    ((txs.foldl (resyncTx ack h) s).stopped = true ∧
      ∃ txpre tx txpost, txs = txpre ++ tx :: txpost ∧ countsInResync tx = true ∧
        0 < ack ∧ ack < (earlyCur s.cur h txpre).nextEvent ∧
        (0 < evCnt txpre → (earlyCur s.cur h txpre).nextEvent ≤ ack + 1) ∧
        (txs.foldl (resyncTx ack h) s).commits = s.commits ++ [earlyCur s.cur h txpre] ∧
        (txs.foldl (resyncTx ack h) s).cur = earlyCur s.cur h txpre) := by
  induction txs generalizing s with
  | nil => exact Or.inl ⟨hs, rfl, rfl, fun _ h => absurd h (Nat.lt_irrefl 0)⟩
  | cons t ts ih =>
    rw [List.foldl_cons, resyncTx_eq ack h s t hs]
    split
    · rename_i hk
      simp only [Bool.and_eq_true, decide_eq_true_eq] at hk
      rw [foldl_resyncTx_stopped ack h ts _ rfl]
      exact Or.inr ⟨rfl, [], t, ts, rfl, hk.1, hk.2.1, hk.2.2, fun h => absurd h (Nat.lt_irrefl 0), rfl, rfl⟩
    · rename_i hk
      simp only [Bool.and_eq_true, decide_eq_true_eq] at hk
      rcases ih { s with cur := stepCur s.cur t } hs with
        ⟨i1, i2, i3, i4⟩ | ⟨i1, txpre, tx, txpost, e, hc, ha, hlt, hge, i2, i3⟩
      · exact Or.inl ⟨i1, i2, i3, fun ha => tight_cons ha hk (i4 ha)⟩
      · exact Or.inr ⟨i1, t :: txpre, tx, txpost, by rw [e]; rfl, hc, ha, hlt, tight_cons ha hk hge, i2, i3⟩


theorem resyncBlock_stopped (ack : Nat) (s : ScanSt) (b : MBlock) (hs : s.stopped = true) :
    resyncBlock ack s b = s := by
  simp [resyncBlock, hs]

theorem foldl_resyncBlock_stopped (ack : Nat) (bs : List MBlock) (s : ScanSt) (hs : s.stopped = true) :
    bs.foldl (resyncBlock ack) s = s := by
  induction bs with
  | nil => rfl
  | cons b bs ih => rw [List.foldl_cons, resyncBlock_stopped ack s b hs, ih]

/-- The outcome of an early return in block `b` after the blocks `pre`, at the transaction
    following `txpre`, for a run that started with cursor `c0` and commits `cs`. -/
structure EarlyReturn (ack : Nat) (c0 : Cursor) (cs : List Cursor) (bs : List MBlock) (r : ScanSt)
    (pre : List MBlock) (b : MBlock) (post : List MBlock) (txpre : List MTx) (tx : MTx)
    (txpost : List MTx) : Prop where
  split_blocks : bs = pre ++ b :: post
  split_txs : b.txs = txpre ++ tx :: txpost
  counted : countsInResync tx = true
  ack_pos : 0 < ack
  ack_lt : ack < (earlyCur (curAfter c0 pre) b.height txpre).nextEvent
  /-- the trigger is the first opportunity inside the block, unless it is the block's first event -/
  ack_tight : 0 < evCnt txpre → (earlyCur (curAfter c0 pre) b.height txpre).nextEvent ≤ ack + 1
  commits_eq : r.commits = cs ++ blockEnds c0 pre ++ [earlyCur (curAfter c0 pre) b.height txpre]
  cur_eq : r.cur = earlyCur (curAfter c0 pre) b.height txpre

theorem foldl_resyncBlock_spec (ack : Nat) (bs : List MBlock) (s : ScanSt) (hs : s.stopped = false) :
    ((bs.foldl (resyncBlock ack) s).stopped = false ∧
      (bs.foldl (resyncBlock ack) s).commits = s.commits ++ blockEnds s.cur bs ∧
      (bs.foldl (resyncBlock ack) s).cur = curAfter s.cur bs) ∨
    ((bs.foldl (resyncBlock ack) s).stopped = true ∧
      ∃ pre b post txpre tx txpost,
        EarlyReturn ack s.cur s.commits bs (bs.foldl (resyncBlock ack) s) pre b post txpre tx txpost) := by
  induction bs generalizing s with
  | nil => exact Or.inl ⟨hs, (List.append_nil _).symm, rfl⟩
  | cons b bs ih =>
    rw [List.foldl_cons]
    rcases foldl_resyncTx_spec ack b.height b.txs s hs with
      ⟨h1, h2, h3, _⟩ | ⟨h1, txpre, tx, txpost, e, hc, ha, hlt, hge, h2, h3⟩
    · -- the block is scanned to its end
      have hb : resyncBlock ack s b =
          { cur := endCur s.cur b, commits := s.commits ++ [endCur s.cur b], stopped := false } := by
        unfold resyncBlock
        rw [if_neg (ne_true_of_eq_false hs)]
        dsimp only
        rw [if_neg (ne_true_of_eq_false h1), h1, h2, h3]
        rfl
      rw [hb]
      rcases ih { cur := endCur s.cur b, commits := s.commits ++ [endCur s.cur b], stopped := false } rfl with
        ⟨i1, i2, i3⟩ | ⟨i1, pre, b', post, txpre, tx, txpost, er⟩
      · left
        refine ⟨i1, ?_, ?_⟩
        · rw [i2, List.append_assoc]; rfl
        · rw [i3]; rfl
      · right
        exact ⟨i1, b :: pre, b', post, txpre, tx, txpost,
          { er with
            split_blocks := by rw [er.split_blocks]; rfl
            commits_eq := by rw [er.commits_eq, List.append_assoc s.commits]; rfl }⟩
    · -- early return inside this block
      have hb : resyncBlock ack s b = b.txs.foldl (resyncTx ack b.height) s := by
        unfold resyncBlock
        rw [if_neg (ne_true_of_eq_false hs)]
        exact if_pos h1
      rw [hb, foldl_resyncBlock_stopped ack bs _ h1]
      right
      refine ⟨h1, [], b, bs, txpre, tx, txpost, ?_⟩
      exact {
        split_blocks := rfl
        split_txs := e
        counted := hc
        ack_pos := ha
        ack_lt := hlt
        ack_tight := hge
        commits_eq := by rw [h2]; exact congrArg (· ++ _) (List.append_nil _).symm
        cur_eq := h3 }

theorem resync_spec (start : Cursor) (ack : Nat) (chain : List MBlock) :
    ((resync start ack chain).stopped = false ∧
      (resync start ack chain).commits = blockEnds start (chain.filter fun b => b.height > start.lastChecked) ∧
      (resync start ack chain).cur = curAfter start (chain.filter fun b => b.height > start.lastChecked)) ∨
    ((resync start ack chain).stopped = true ∧
      ∃ pre b post txpre tx txpost,
        EarlyReturn ack start [] (chain.filter fun b => b.height > start.lastChecked)
          (resync start ack chain) pre b post txpre tx txpost) := by
  exact foldl_resyncBlock_spec ack (chain.filter fun b => b.height > start.lastChecked)
    { cur := start, commits := [], stopped := false } rfl

theorem EarlyReturn.blockCommits_eq {ack c0 cs bs r pre b post txpre tx txpost}
    (er : EarlyReturn ack c0 cs bs r pre b post txpre tx txpost) (hr : r.stopped = true) :
    blockCommits r = cs ++ blockEnds c0 pre := by
  simp [blockCommits, hr, er.commits_eq]

/-! ### Linking prefixes of the scanned blocks to height ranges of the history -/

theorem filter_range_split (chain : List MBlock) (lo hi : Nat) :
    (chain.filter fun b => lo < b.height && b.height ≤ hi) =
    (chain.filter fun b => b.height > lo).filter fun b => b.height ≤ hi := by
  rw [List.filter_filter]
  apply List.filter_congr
  intro b _
  by_cases h1 : lo < b.height <;> by_cases h2 : b.height ≤ hi <;> simp [h1, h2]

theorem ChainWF.filter {chain : List MBlock} (h : ChainWF chain) (p : MBlock → Bool) :
    ChainWF (chain.filter p) := List.Pairwise.filter p h

theorem filter_height_le {pre post : List MBlock} {k : Nat} (h1 : ∀ a ∈ pre, a.height ≤ k)
    (h2 : ∀ a ∈ post, k < a.height) : ((pre ++ post).filter fun x => x.height ≤ k) = pre := by
  rw [List.filter_append, List.filter_eq_self.mpr fun a ha => decide_eq_true (h1 a ha),
    List.filter_eq_nil_iff.mpr fun a ha => by have := h2 a ha; simp only [decide_eq_true_eq]; omega,
    List.append_nil]

theorem filter_height_gt {pre post : List MBlock} {k : Nat} (h1 : ∀ a ∈ pre, a.height ≤ k)
    (h2 : ∀ a ∈ post, k < a.height) : ((pre ++ post).filter fun x => x.height > k) = post := by
  rw [List.filter_append, List.filter_eq_self.mpr fun a ha => decide_eq_true (h2 a ha),
    List.filter_eq_nil_iff.mpr fun a ha => by have := h1 a ha; simp only [decide_eq_true_eq]; omega,
    List.nil_append]

theorem ChainWF.around {pre post : List MBlock} {b : MBlock} (h : ChainWF (pre ++ b :: post)) :
    (∀ a ∈ pre ++ [b], a.height ≤ b.height) ∧ (∀ a ∈ post, b.height < a.height) := by
  have h' := List.pairwise_append.mp h
  refine ⟨fun a ha => ?_, (List.pairwise_cons.mp h'.2.1).1⟩
  rcases List.mem_append.mp ha with ha | ha
  · exact Nat.le_of_lt (h'.2.2 a ha b List.mem_cons_self)
  · rw [List.mem_singleton.mp ha]; exact Nat.le_refl _

theorem filter_le_pred_height {pre post : List MBlock} {b : MBlock} (h : ChainWF (pre ++ b :: post))
    (hpos : 0 < b.height) :
    ((pre ++ b :: post).filter fun x => x.height ≤ b.height - 1) = pre := by
  have h' := List.pairwise_append.mp h
  refine filter_height_le (fun a ha => ?_) (fun a ha => ?_)
  · have := h'.2.2 a ha b List.mem_cons_self; omega
  · rcases List.mem_cons.mp ha with rfl | ha
    · omega
    · have := (List.pairwise_cons.mp h'.2.1).1 a ha; omega

theorem range_upto_block {chain : List MBlock} {lo : Nat} {pre post : List MBlock} {b : MBlock}
    (hwf : ChainWF chain) (hsplit : (chain.filter fun b => b.height > lo) = pre ++ b :: post) :
    (chain.filter fun x => lo < x.height && x.height ≤ b.height) = pre ++ [b] := by
  have hs : ChainWF (pre ++ b :: post) := hsplit ▸ hwf.filter _
  rw [filter_range_split, hsplit, List.append_cons]
  exact filter_height_le hs.around.1 hs.around.2

theorem mem_of_scan_split {chain : List MBlock} {lo : Nat} {pre post : List MBlock} {b : MBlock}
    (hsplit : (chain.filter fun b => b.height > lo) = pre ++ b :: post) :
    b ∈ chain ∧ lo < b.height := by
  have : b ∈ chain.filter fun b => b.height > lo := by rw [hsplit]; simp
  rw [List.mem_filter] at this
  exact ⟨this.1, by simpa using this.2⟩

theorem range_below_block {chain : List MBlock} {lo : Nat} {pre post : List MBlock} {b : MBlock}
    (hwf : ChainWF chain) (hsplit : (chain.filter fun b => b.height > lo) = pre ++ b :: post) :
    (chain.filter fun x => lo < x.height && x.height ≤ b.height - 1) = pre := by
  rw [filter_range_split, hsplit]
  have := (mem_of_scan_split hsplit).2
  exact filter_le_pred_height (hsplit ▸ hwf.filter _) (by omega)

theorem consistent_eq_true_iff (chain : List MBlock) (start c : Cursor) :
    consistent chain start c = true ↔
      start.lastChecked ≤ c.lastChecked ∧
      c.nextEvent = start.nextEvent + eventsBetween chain start.lastChecked c.lastChecked := by
  simp [consistent]

theorem blockEnd_laws {chain : List MBlock} {start c : Cursor} (hwf : ChainWF chain)
    (hc : c ∈ blockEnds start (chain.filter fun b => b.height > start.lastChecked)) :
    consistent chain start c = true ∧
    c.nextBatch = start.nextBatch + batchesBetween chain start.lastChecked c.lastChecked ∧
    c.lastValset = valsetAfter start.lastValset (txsBetween chain start.lastChecked c.lastChecked) ∧
    ∃ b ∈ chain, start.lastChecked < b.height ∧ c.lastChecked = b.height := by
  obtain ⟨pre, b, post, hsplit, hcur⟩ := mem_blockEnds hc
  have hlc : c.lastChecked = b.height := by rw [hcur, curAfter_lastChecked_concat]
  have hrange := range_upto_block hwf hsplit
  have hm := mem_of_scan_split hsplit
  refine ⟨(consistent_eq_true_iff chain start c).mpr ⟨by omega, ?_⟩, ?_, ?_, b, hm.1, hm.2, hlc⟩
  · rw [eventsBetween_eq, hlc, hrange, hcur, curAfter_nextEvent]
  · rw [batchesBetween, hlc, hrange, hcur, curAfter_nextBatch]
  · rw [txsBetween, hlc, hrange, hcur, curAfter_lastValset]

theorem evSum_prefix_le (pre : List MBlock) (b : MBlock) (post : List MBlock) :
    evSum pre + evCnt b.txs ≤ evSum (pre ++ b :: post) := by
  rw [evSum_append, evSum_cons]; omega

/-- `eventsBetween` wants an upper height; the sum of all heights is one that no block exceeds, so
    "all blocks above `lo`" is a range too (`eventsAbove_eq_eventsBetween`). -/
theorem mblock_height_le_sum {chain : List MBlock} {b : MBlock} (h : b ∈ chain) :
    b.height ≤ sumNats (chain.map (·.height)) := by
  induction chain with
  | nil => simp at h
  | cons x xs ih =>
    rw [List.map_cons, sumNats_cons]
    rcases List.mem_cons.mp h with h | h
    · subst h; omega
    · have := ih h; omega

theorem eventsAbove_eq_eventsBetween (chain : List MBlock) (lo : Nat) :
    eventsAbove chain lo = eventsBetween chain lo (sumNats (chain.map (·.height))) := by
  rw [eventsAbove, eventsBetween_eq]
  congr 1
  apply List.filter_congr
  intro b hb
  have := mblock_height_le_sum hb
  by_cases h1 : lo < b.height <;> simp [h1, this]


theorem blockEnds_nextEvent_le_curAfter {bs : List MBlock} {c0 c : Cursor} (h : c ∈ blockEnds c0 bs) :
    c.nextEvent ≤ (curAfter c0 bs).nextEvent := by
  obtain ⟨pre, b, post, hbs, hc⟩ := mem_blockEnds h
  rw [hc, hbs, curAfter_nextEvent, curAfter_nextEvent, evSum_append, evSum_append, evSum_cons, evSum_cons]
  simp

theorem blockEnds_pairwise_lastChecked {bs : List MBlock} (h : ChainWF bs) (c0 : Cursor) :
    (blockEnds c0 bs).Pairwise (fun a b => a.lastChecked < b.lastChecked) := by
  have h1 : ((blockEnds c0 bs).map (·.lastChecked)).Pairwise (fun a b => a < b) := by
    rw [blockEnds_map_lastChecked, List.pairwise_map]; exact h
  rwa [List.pairwise_map] at h1

theorem blockEnds_lastChecked_mem {bs : List MBlock} {c0 c : Cursor} (h : c ∈ blockEnds c0 bs) :
    ∃ b ∈ bs, c.lastChecked = b.height := by
  have : c.lastChecked ∈ (blockEnds c0 bs).map (·.lastChecked) := List.mem_map.mpr ⟨c, h, rfl⟩
  rw [blockEnds_map_lastChecked, List.mem_map] at this
  obtain ⟨b, hb, e⟩ := this
  exact ⟨b, hb, e.symm⟩

theorem blockCommits_prefix (start : Cursor) (ack : Nat) (chain : List MBlock) :
    ∃ rest, blockEnds start (chain.filter fun b => b.height > start.lastChecked) =
      blockCommits (resync start ack chain) ++ rest := by
  rcases resync_spec start ack chain with ⟨h1, h2, _⟩ | ⟨h1, pre, b, post, txpre, tx, txpost, er⟩
  · exact ⟨[], by simp [blockCommits, h1, h2]⟩
  · refine ⟨blockEnds (curAfter start pre) (b :: post), ?_⟩
    rw [er.blockCommits_eq h1, er.split_blocks, blockEnds_append]; simp

theorem mem_blockCommits {start : Cursor} {ack : Nat} {chain : List MBlock} {c : Cursor}
    (h : c ∈ blockCommits (resync start ack chain)) :
    c ∈ blockEnds start (chain.filter fun b => b.height > start.lastChecked) := by
  obtain ⟨rest, e⟩ := blockCommits_prefix start ack chain
  rw [e]; exact List.mem_append_left _ h

theorem commits_eq_blockCommits (r : ScanSt) (hne : r.stopped = true → r.commits ≠ []) :
    r.commits = blockCommits r ++ (if r.stopped then r.commits.getLast?.toList else []) := by
  unfold blockCommits
  by_cases hs : r.stopped = true
  · simp only [hs, if_true]
    have hne' := hne hs
    rw [List.getLast?_eq_some_getLast hne']
    exact (List.dropLast_concat_getLast hne').symm
  · simp [hs]

/-! ### Consistency composes across restarts -/

theorem evSum_filter_or (p q : MBlock → Bool) (l : List MBlock) (hd : ∀ x ∈ l, (p x && q x) = false) :
    evSum (l.filter fun x => p x || q x) = evSum (l.filter p) + evSum (l.filter q) := by
  induction l with
  | nil => rfl
  | cons x xs ih =>
    have hx := hd x List.mem_cons_self
    have ih' := ih fun y hy => hd y (List.mem_cons_of_mem _ hy)
    simp only [List.filter_cons]
    cases hp : p x <;> cases hq : q x <;> rw [hp, hq] at hx
    · exact ih'
    · simp only [Bool.false_or, if_true, Bool.false_eq_true, if_false, evSum_cons, ih']; omega
    · simp only [Bool.true_or, if_true, Bool.false_eq_true, if_false, evSum_cons, ih']; omega
    · cases hx

theorem eventsBetween_add (chain : List MBlock) {a b c : Nat} (hab : a ≤ b) (hbc : b ≤ c) :
    eventsBetween chain a c = eventsBetween chain a b + eventsBetween chain b c := by
  simp only [eventsBetween_eq]
  rw [← evSum_filter_or _ _ _ fun x _ => by
    rw [Bool.eq_false_iff]; simp only [ne_eq, Bool.and_eq_true, decide_eq_true_eq]; omega]
  refine congrArg evSum (List.filter_congr fun x _ => ?_)
  rw [Bool.eq_iff_iff]
  simp only [Bool.and_eq_true, Bool.or_eq_true, decide_eq_true_eq]
  omega

theorem consistent_trans {chain : List MBlock} {s c1 c2 : Cursor}
    (h1 : consistent chain s c1 = true) (h2 : consistent chain c1 c2 = true) :
    consistent chain s c2 = true := by
  rw [consistent_eq_true_iff] at h1 h2 ⊢
  refine ⟨by omega, ?_⟩
  rw [eventsBetween_add chain h1.1 h2.1]; omega

end Mhub2
