/-
  The connector's live loop `relayMinterEvents` (model: `Mhub2.relay`), characterised completely: over the blocks of its window it moves the cursor exactly
  like the start-up scan without early return (`curAfter`), the claims it hands to the committer
  are the canonical numbering `blockClaims` of the bridge events of the window, and every status
  file it writes is a block-end cursor of the window.  `claimOf`, `txClaims`, `blockClaims`,
  `loopCommits` say what the loop ought to produce from a list of blocks, without the loop's state;
  `relayRounds` iterates the model's `relay` over a polling schedule.
-/
import Lemmas.Connector
namespace Mhub2


def claimOf (c : Cursor) (height : Nat) : MTx → Option Claim
  | .send toM jsonOk valid => if toM && jsonOk && valid then some (.deposit c.nextEvent height) else none
  | .multisend fromM => if fromM then some (.batch c.nextEvent c.nextBatch height) else none
  | .editMultisig fromM (some n) => if fromM then some (.valset c.nextEvent n height) else none
  | _ => none

def txClaims (c : Cursor) (height : Nat) : List MTx → List Claim
  | [] => []
  | t :: ts => (claimOf c height t).toList ++ txClaims (stepCur c t) height ts

def blockClaims (c : Cursor) : List MBlock → List Claim
  | [] => []
  | b :: bs => txClaims c b.height b.txs ++ blockClaims (endCur c b) bs

def relayWindow (start : Cursor) (chain : List MBlock) (latest : Nat) : List MBlock :=
  chain.filter fun b => start.lastChecked < b.height && b.height ≤ relayLimit start latest

theorem claimOf_cases (c : Cursor) (h : Nat) (tx : MTx) :
    (countsInResync tx = false ∧ claimOf c h tx = none) ∨
    (countsInResync tx = true ∧ ∃ cl, claimOf c h tx = some cl ∧ cl.nonce = c.nextEvent ∧ cl.height = h) := by
  have yes {cl : Claim} (hn : cl.nonce = c.nextEvent) (hh : cl.height = h) :
      ∃ cl', some cl = some cl' ∧ cl'.nonce = c.nextEvent ∧ cl'.height = h := ⟨cl, rfl, hn, hh⟩
  cases tx with
  | send a b d => cases a <;> cases b <;> cases d <;> first | exact .inl ⟨rfl, rfl⟩ | exact .inr ⟨rfl, yes rfl rfl⟩
  | multisend a => cases a <;> first | exact .inl ⟨rfl, rfl⟩ | exact .inr ⟨rfl, yes rfl rfl⟩
  | editMultisig a p => cases a <;> cases p <;> first | exact .inl ⟨rfl, rfl⟩ | exact .inr ⟨rfl, yes rfl rfl⟩
  | other => exact .inl ⟨rfl, rfl⟩

theorem claimOf_lastChecked (c : Cursor) (k h : Nat) (tx : MTx) :
    claimOf { c with lastChecked := k } h tx = claimOf c h tx := by
  cases tx with
  | send a b d => rfl
  | multisend a => rfl
  | editMultisig a p => cases p <;> rfl
  | other => rfl

theorem stepCur_setLastChecked (c : Cursor) (k : Nat) (tx : MTx) :
    stepCur { c with lastChecked := k } tx = { stepCur c tx with lastChecked := k } := by
  rw [stepCur_eq, stepCur_eq]

theorem foldl_stepCur_setLastChecked (txs : List MTx) (c : Cursor) (k : Nat) :
    txs.foldl stepCur { c with lastChecked := k } = { txs.foldl stepCur c with lastChecked := k } := by
  rw [foldl_stepCur_eq, foldl_stepCur_eq]

theorem txClaims_setLastChecked (txs : List MTx) (c : Cursor) (k h : Nat) :
    txClaims { c with lastChecked := k } h txs = txClaims c h txs := by
  induction txs generalizing c with
  | nil => rfl
  | cons t ts ih => simp only [txClaims, claimOf_lastChecked, stepCur_setLastChecked, ih]


theorem relayTx_spec (h : Nat) (s : RelaySt) (tx : MTx) :
    (relayTx h s tx).cur = stepCur s.cur tx ∧
    (relayTx h s tx).claims = s.claims ++ (claimOf s.cur h tx).toList ∧
    (relayTx h s tx).commits = s.commits := by
  have nop : s.cur = s.cur ∧ s.claims = s.claims ++ [] ∧ s.commits = s.commits :=
    ⟨rfl, (List.append_nil _).symm, rfl⟩
  cases tx with
  | send a b d => cases a <;> cases b <;> cases d <;> first | exact nop | exact ⟨rfl, rfl, rfl⟩
  | multisend a => cases a <;> first | exact nop | exact ⟨rfl, rfl, rfl⟩
  | editMultisig a p => cases a <;> cases p <;> first | exact nop | exact ⟨rfl, rfl, rfl⟩
  | other => exact nop

theorem foldl_relayTx_spec (h : Nat) (txs : List MTx) (s : RelaySt) :
    (txs.foldl (relayTx h) s).cur = txs.foldl stepCur s.cur ∧
    (txs.foldl (relayTx h) s).claims = s.claims ++ txClaims s.cur h txs ∧
    (txs.foldl (relayTx h) s).commits = s.commits := by
  induction txs generalizing s with
  | nil => simp [txClaims]
  | cons t ts ih =>
    obtain ⟨h1, h2, h3⟩ := relayTx_spec h s t
    obtain ⟨i1, i2, i3⟩ := ih (relayTx h s t)
    rw [List.foldl_cons]
    refine ⟨by rw [i1, h1]; rfl, ?_, by rw [i3, h3]⟩
    rw [i2, h2, h1, txClaims, List.append_assoc]

/-- One block of the loop: cursor as in the scan, claims appended, and at most one commit: the
    block-end cursor, written only while no claim is waiting. -/
theorem relayBlock_spec (s : RelaySt) (b : MBlock) :
    (relayBlock s b).cur = endCur s.cur b ∧
    (relayBlock s b).claims = s.claims ++ txClaims s.cur b.height b.txs ∧
    (relayBlock s b).commits =
      s.commits ++ (if (s.claims ++ txClaims s.cur b.height b.txs).isEmpty then [endCur s.cur b] else []) := by
  obtain ⟨h1, h2, h3⟩ := foldl_relayTx_spec b.height b.txs { s with cur := { s.cur with lastChecked := b.height } }
  rw [foldl_stepCur_setLastChecked] at h1
  simp only [txClaims_setLastChecked] at h2
  unfold relayBlock
  dsimp only
  generalize b.txs.foldl (relayTx b.height) _ = s2 at h1 h2 h3 ⊢
  rw [← h2]
  cases s2.claims.isEmpty
  · exact ⟨h1, rfl, h3.trans (List.append_nil _).symm⟩
  · exact ⟨h1, rfl, h3 ▸ h1 ▸ rfl⟩

/-- Commits of the block loop: a prefix of the block-end cursors — those of the blocks before the
    first block that contains a bridge event (and none if a claim is already waiting). -/
def loopCommits (c : Cursor) (waiting : Bool) : List MBlock → List Cursor
  | [] => []
  | b :: bs =>
    if waiting || !(txClaims c b.height b.txs).isEmpty then []
    else endCur c b :: loopCommits (endCur c b) false bs

theorem isEmpty_append {α : Type} (a b : List α) : (a ++ b).isEmpty = (a.isEmpty && b.isEmpty) := by
  cases a <;> cases b <;> rfl

theorem loopCommits_cons (c : Cursor) (w : Bool) (b : MBlock) (bs : List MBlock) :
    loopCommits c w (b :: bs) =
      if w || !(txClaims c b.height b.txs).isEmpty then []
      else endCur c b :: loopCommits (endCur c b) false bs := rfl

theorem loopCommits_waiting (c : Cursor) (bs : List MBlock) : loopCommits c true bs = [] := by
  cases bs <;> rfl

theorem foldl_relayBlock_spec (bs : List MBlock) (s : RelaySt) :
    (bs.foldl relayBlock s).cur = curAfter s.cur bs ∧
    (bs.foldl relayBlock s).claims = s.claims ++ blockClaims s.cur bs ∧
    (bs.foldl relayBlock s).commits = s.commits ++ loopCommits s.cur (!s.claims.isEmpty) bs := by
  induction bs generalizing s with
  | nil => exact ⟨rfl, (List.append_nil _).symm, (List.append_nil _).symm⟩
  | cons b bs ih =>
    obtain ⟨h1, h2, h3⟩ := relayBlock_spec s b
    obtain ⟨i1, i2, i3⟩ := ih (relayBlock s b)
    rw [List.foldl_cons]
    refine ⟨by rw [i1, h1]; rfl, by rw [i2, h2, h1, blockClaims, List.append_assoc], ?_⟩
    rw [i3, h3, h2, h1, loopCommits_cons, ← Bool.not_and, ← isEmpty_append]
    cases (s.claims ++ txClaims s.cur b.height b.txs).isEmpty
    · show s.commits ++ [] ++ loopCommits _ true bs = s.commits ++ []
      rw [loopCommits_waiting, List.append_nil]
    · show s.commits ++ [endCur s.cur b] ++ loopCommits _ false bs = s.commits ++ endCur s.cur b :: _
      rw [List.append_assoc]; rfl

theorem loopCommits_sub (c : Cursor) (w : Bool) (bs : List MBlock) :
    ∀ x ∈ loopCommits c w bs, x ∈ blockEnds c bs := by
  induction bs generalizing c w with
  | nil => simp [loopCommits]
  | cons b bs ih =>
    intro x hx
    unfold loopCommits at hx
    split at hx
    · cases hx
    · rcases List.mem_cons.mp hx with h | h
      · simp [blockEnds, h]
      · simp only [blockEnds, List.mem_cons]; exact Or.inr (ih _ _ x h)


theorem txClaims_length (c : Cursor) (h : Nat) (txs : List MTx) : (txClaims c h txs).length = evCnt txs := by
  induction txs generalizing c with
  | nil => rfl
  | cons t ts ih =>
    rw [txClaims, List.length_append, ih, evCnt_cons]
    rcases claimOf_cases c h t with ⟨hc, he⟩ | ⟨hc, cl, he, _⟩ <;> rw [he, hc] <;> rfl

theorem txClaims_nonces (c : Cursor) (h : Nat) (txs : List MTx) :
    (txClaims c h txs).map Claim.nonce = List.range' c.nextEvent (evCnt txs) := by
  induction txs generalizing c with
  | nil => rfl
  | cons t ts ih =>
    rw [txClaims, List.map_append, ih, evCnt_cons, stepCur_nextEvent]
    rcases claimOf_cases c h t with ⟨hc, he⟩ | ⟨hc, cl, he, hn, _⟩ <;> rw [he, hc]
    · simp
    · show cl.nonce :: _ = _
      rw [hn, if_pos rfl, Nat.add_comm 1, List.range'_succ]
      rfl

theorem txClaims_heights (c : Cursor) (h : Nat) (txs : List MTx) :
    ∀ cl ∈ txClaims c h txs, cl.height = h := by
  induction txs generalizing c with
  | nil => intro cl hcl; cases hcl
  | cons t ts ih =>
    intro cl hcl
    rw [txClaims, List.mem_append] at hcl
    rcases hcl with hcl | hcl
    · rcases claimOf_cases c h t with ⟨_, he⟩ | ⟨_, x, he, _, hh⟩ <;> rw [he] at hcl
      · cases hcl
      · rw [List.mem_singleton.mp hcl]; exact hh
    · exact ih _ cl hcl

theorem blockClaims_length (c : Cursor) (bs : List MBlock) : (blockClaims c bs).length = evSum bs := by
  induction bs generalizing c with
  | nil => rfl
  | cons b bs ih => rw [blockClaims, List.length_append, ih, txClaims_length, evSum_cons]

theorem blockClaims_nonces (c : Cursor) (bs : List MBlock) :
    (blockClaims c bs).map Claim.nonce = List.range' c.nextEvent (evSum bs) := by
  induction bs generalizing c with
  | nil => rfl
  | cons b bs ih =>
    rw [blockClaims, List.map_append, ih, txClaims_nonces, evSum_cons, endCur_nextEvent,
      List.range'_append_1]

theorem blockClaims_append (c : Cursor) (a b : List MBlock) :
    blockClaims c (a ++ b) = blockClaims c a ++ blockClaims (curAfter c a) b := by
  induction a generalizing c with
  | nil => rfl
  | cons x xs ih => simp [blockClaims, ih, curAfter_cons]

theorem blockClaims_heights (c : Cursor) (bs : List MBlock) :
    ∀ cl ∈ blockClaims c bs, ∃ b ∈ bs, cl.height = b.height := by
  induction bs generalizing c with
  | nil => simp [blockClaims]
  | cons b bs ih =>
    intro cl hcl
    rw [blockClaims, List.mem_append] at hcl
    rcases hcl with hcl | hcl
    · exact ⟨b, by simp, txClaims_heights _ _ _ cl hcl⟩
    · obtain ⟨b', hb', h⟩ := ih _ cl hcl
      exact ⟨b', by simp [hb'], h⟩

/-! ### The window is a prefix of the blocks above the cursor -/

theorem sorted_filter_le_prefix {l : List MBlock} (h : ChainWF l) (hi : Nat) :
    ∃ rest, l = (l.filter fun b => b.height ≤ hi) ++ rest := by
  induction l with
  | nil => exact ⟨[], rfl⟩
  | cons x xs ih =>
    obtain ⟨hx, hxs⟩ := List.pairwise_cons.mp h
    by_cases hle : x.height ≤ hi
    · obtain ⟨rest, hr⟩ := ih hxs
      exact ⟨rest, by rw [List.filter_cons, if_pos (decide_eq_true hle), List.cons_append, ← hr]⟩
    · -- `x` is above `hi`, and so is everything after it
      refine ⟨x :: xs, ?_⟩
      rw [List.filter_eq_nil_iff.mpr, List.nil_append]
      intro a ha
      have : x.height ≤ a.height := by
        rcases List.mem_cons.mp ha with rfl | ha
        · exact Nat.le_refl _
        · exact Nat.le_of_lt (hx a ha)
      simp only [decide_eq_true_eq]; omega

theorem relayWindow_prefix {chain : List MBlock} (hwf : ChainWF chain) (start : Cursor) (latest : Nat) :
    ∃ rest, (chain.filter fun b => b.height > start.lastChecked) = relayWindow start chain latest ++ rest := by
  unfold relayWindow
  rw [filter_range_split]
  exact sorted_filter_le_prefix (hwf.filter _) _

theorem mem_blockEnds_window {chain : List MBlock} (hwf : ChainWF chain) (start : Cursor) (latest : Nat)
    {c : Cursor} (hc : c ∈ blockEnds start (relayWindow start chain latest)) :
    c ∈ blockEnds start (chain.filter fun b => b.height > start.lastChecked) := by
  obtain ⟨rest, hr⟩ := relayWindow_prefix hwf start latest
  rw [hr, blockEnds_append]; exact List.mem_append_left _ hc

theorem curAfter_mem_blockEnds (c : Cursor) {bs : List MBlock} (h : bs ≠ []) :
    curAfter c bs ∈ blockEnds c bs := by
  obtain ⟨pre, b, rfl⟩ := (List.eq_nil_or_concat bs).resolve_left h
  rw [List.concat_eq_append, blockEnds_append, curAfter_concat]
  exact List.mem_append_right _ List.mem_cons_self


theorem relay_spec (start : Cursor) (chain : List MBlock) (latest : Nat) :
    (relay start chain latest).cur = curAfter start (relayWindow start chain latest) ∧
    (relay start chain latest).claims = blockClaims start (relayWindow start chain latest) ∧
    (relay start chain latest).commits =
      loopCommits start false (relayWindow start chain latest) ++
        (if (blockClaims start (relayWindow start chain latest)).isEmpty then []
         else [curAfter start (relayWindow start chain latest)]) := by
  obtain ⟨h1, h2, h3⟩ := foldl_relayBlock_spec (relayWindow start chain latest)
    { cur := start, claims := [], commits := [] }
  rw [List.nil_append] at h2 h3
  have hs : relay start chain latest =
      (fun s : RelaySt => if s.claims.isEmpty then s else { s with commits := s.commits ++ [s.cur] })
        ((relayWindow start chain latest).foldl relayBlock { cur := start, claims := [], commits := [] }) := rfl
  rw [hs, ← h1, ← h2]
  generalize (relayWindow start chain latest).foldl relayBlock _ = r at h3 ⊢
  dsimp only
  split
  · exact ⟨rfl, rfl, by rw [h3, List.append_nil]; rfl⟩
  · exact ⟨rfl, rfl, by rw [h3]; rfl⟩

theorem relay_commits_sub (start : Cursor) (chain : List MBlock) (latest : Nat) :
    ∀ c ∈ (relay start chain latest).commits, c ∈ blockEnds start (relayWindow start chain latest) := by
  intro c hc
  rw [(relay_spec start chain latest).2.2] at hc
  rcases List.mem_append.mp hc with hc | hc
  · exact loopCommits_sub _ _ _ c hc
  · split at hc
    · cases hc
    · rename_i hne
      rw [List.mem_singleton.mp hc]
      exact curAfter_mem_blockEnds _ fun hnil => hne (by rw [hnil]; rfl)


/-- Successive rounds of the loop: round `i` starts from the cursor round `i-1` ended with and sees
    the node at height `ls[i]`.  Result: final cursor, all claims, all status-file commits. -/
def relayRounds (chain : List MBlock) : Cursor → List Nat → Cursor × List Claim × List Cursor
  | start, [] => (start, [], [])
  | start, l :: ls =>
    let r := relay start chain l
    let rest := relayRounds chain r.cur ls
    (rest.1, r.claims ++ rest.2.1, r.commits ++ rest.2.2)

theorem filter_gt_curAfter {chain : List MBlock} (hwf : ChainWF chain) (start : Cursor)
    {w rest : List MBlock} (hsplit : (chain.filter fun b => b.height > start.lastChecked) = w ++ rest) :
    (chain.filter fun b => b.height > (curAfter start w).lastChecked) = rest := by
  rcases List.eq_nil_or_concat w with hw | ⟨pre, b, hw⟩
  · subst hw; simpa using hsplit
  · rw [List.concat_eq_append] at hw
    subst hw
    rw [curAfter_lastChecked_concat]
    have hb : b ∈ chain.filter fun b => b.height > start.lastChecked := by rw [hsplit]; simp
    have hbgt : start.lastChecked < b.height := by simpa using (List.mem_filter.mp hb).2
    have e : (chain.filter fun x => x.height > b.height) =
        (chain.filter fun x => x.height > start.lastChecked).filter fun x => x.height > b.height := by
      rw [List.filter_filter]
      refine List.filter_congr fun x _ => ?_
      rw [Bool.eq_iff_iff]
      simp only [Bool.and_eq_true, decide_eq_true_eq]
      omega
    have hs : ChainWF (pre ++ b :: rest) := by
      rw [List.append_cons, ← hsplit]; exact hwf.filter _
    rw [e, hsplit]
    exact filter_height_gt hs.around.1 hs.around.2

/-- Whatever the polling schedule, the rounds together behave like one pass over a prefix `W` of
    the blocks above the start cursor. -/
theorem relayRounds_spec {chain : List MBlock} (hwf : ChainWF chain) (ls : List Nat) (start : Cursor) :
    ∃ W rest, (chain.filter fun b => b.height > start.lastChecked) = W ++ rest ∧
      (relayRounds chain start ls).1 = curAfter start W ∧
      (relayRounds chain start ls).2.1 = blockClaims start W ∧
      ∀ c ∈ (relayRounds chain start ls).2.2, c ∈ blockEnds start W := by
  induction ls generalizing start with
  | nil => exact ⟨[], _, rfl, rfl, rfl, by simp [relayRounds]⟩
  | cons l ls ih =>
    obtain ⟨rest1, hr1⟩ := relayWindow_prefix hwf start l
    obtain ⟨h1, h2, h3⟩ := relay_spec start chain l
    obtain ⟨W2, rest2, hs2, c2, cl2, cm2⟩ := ih (relay start chain l).cur
    rw [h1] at hs2 c2 cl2 cm2
    rw [filter_gt_curAfter hwf start hr1] at hs2
    refine ⟨relayWindow start chain l ++ W2, rest2, by rw [hr1, hs2, List.append_assoc], ?_, ?_, ?_⟩
    · show (relayRounds chain (relay start chain l).cur ls).1 = _
      rw [h1, c2]; simp [curAfter, List.foldl_append]
    · show (relay start chain l).claims ++ (relayRounds chain (relay start chain l).cur ls).2.1 = _
      rw [h1, cl2, h2, blockClaims_append]
    · intro c hc
      have hc' : c ∈ (relay start chain l).commits ++ (relayRounds chain (relay start chain l).cur ls).2.2 := hc
      rw [blockEnds_append]
      rcases List.mem_append.mp hc' with hc' | hc'
      · exact List.mem_append_left _ (relay_commits_sub start chain l c hc')
      · apply List.mem_append_right
        rw [h1] at hc'
        exact cm2 c hc'

end Mhub2
